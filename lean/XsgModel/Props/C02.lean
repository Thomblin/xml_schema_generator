import XsgModel.Model.De
import XsgModel.Proofs.DeserQuick
import XsgModel.Proofs.DeserScope
import XsgModel.Props.C01
import XsgModel.Props.C04
/-!
# C02 — generated code compiles and quick_xml::de deserializes the source documents  (PARTIAL)

A Lean theorem cannot be about `rustc`, `serde_derive` or `quick_xml::de` themselves.  Two things are proved.

About the model's program (`C02_partial`, `C02_fields_unique`, `C02_bindings`): for every history of well-formed
documents with a common root, the program rendered with the quick-xml preset has pairwise distinct struct names,
none of which is `Self`, `String`, `Option`, `Vec`, `Serialize` or `Deserialize` (the names the surrounding code
needs), pairwise distinct field identifiers in the struct of the root (for every struct: `C04_fields_unique`), field types
that resolve inside the program — and the tree admits every source document (`Admits`: each attribute / child has a field, required fields are present,
single fields occur at most once, text only where a text field exists).  That this structural predicate means
"compiles" is not proved: `rustc` / `serde_derive` acceptance is observed by really compiling every generated
program of the correspondence run.

Relative to the model of `quick_xml::de` (`Model/Deser.lean`; `C02_deserializes`, and `C02_holds` with the side
condition stated on the documents): on the rendered program — which, for names in C04's domain, is the one read back from
the rendered text (`C02_program_is_the_text`) — `from_str` returns a value for every source document inside the model, plain and with `deny_unknown_fields`, and
the non-empty strings of the value are exactly the attribute values and the character data of the document as
`quick_xml::de` reports it (`VNode.values`: runs trimmed, white-space-only runs dropped).  The model
is *assumed*: it is tied to the real crate only by comparing, in every run of the correspondence, its value with the
value the compiled program produces.  Outside the model: mixed content, `xsi:nil` (known finding K2).
-/
namespace Xsg

/-- the structural part of "compiles": what name resolution and `serde_derive` need -/
structure CompilesStructurally (p : List StructDef) : Prop where
  structs_unique : (p.map (·.name)).Nodup
  structs_free : ∀ s ∈ p, s.name ∉ reservedStructNames
  types_resolve : ∀ s ∈ p, ∀ f ∈ s.fields, f.base = stringTy ∨ ∃ s' ∈ p, s'.name = f.base

theorem parsed_compilesStructurally (o : Options) (H : List Doc) (h : historyOk H) :
    ∃ t, parseHistory (H.map Doc.events) = .ok t ∧ CompilesStructurally (renderAST o t) ∧ ∀ d ∈ H, Admits t d.root := by
  obtain ⟨t, ht, hm, -⟩ := parse_history H h
  exact ⟨t, ht, ⟨C04_structs_unique _ t hm.inv, (struct_names_spec _ _ t hm.inv).2, C04_types_resolve _ t⟩,
    fun d hd => matches_admits hm _ (List.mem_map_of_mem hd)⟩

theorem C02_partial (H : List Doc) (h : historyOk H) :
    ∃ t, parseHistory (H.map Doc.events) = .ok t ∧
      CompilesStructurally (renderAST Options.quickXmlDe t) ∧
      (∀ s ∈ renderAST Options.quickXmlDe t, s.derive = some (cl!"Serialize, Deserialize")) ∧
      (∀ d ∈ H, Admits t d.root) := by
  obtain ⟨t, ht, hc, hadm⟩ := parsed_compilesStructurally Options.quickXmlDe H h
  refine ⟨t, ht, hc, ?_, hadm⟩
  intro s hs
  simp only [renderAST, renderWith, List.mem_map] at hs
  obtain ⟨en, _, rfl⟩ := hs
  rfl

/-- the attribute names and the child names of the parsed root are distinct, and so are the field identifiers of the
struct rendered for it -/
theorem C02_fields_unique (H : List Doc) (h : historyOk H) :
    ∃ t, parseHistory (H.map Doc.events) = .ok t ∧ (names t.attrs).Nodup ∧ (childNames t.children).Nodup ∧
      ∀ names' en, en.elem = t → ((structOf Options.quickXmlDe (hintOf (fillNames [] t)) names' en).fields.map (·.ident)).Nodup := by
  obtain ⟨t, ht, hm, -⟩ := parse_history H h
  have h1 : (names t.attrs).Nodup := by rw [hm.attrs]; exact nodup_dedupNames _
  refine ⟨t, ht, h1, hm.nodup, ?_⟩
  intro names' en he
  apply C04_fields_unique
  · rw [he]; exact h1
  · rw [he]; exact hm.nodup

/-- the bindings of the quick-xml preset: attributes under `@` + local name, text under `$text`, children under their local name -/
theorem C02_bindings (im : IdentMap) (a : Nec × Name) (hints) (names') (path trace : List Name) (c : Nec × Elem) :
    ((attrField Options.quickXmlDe im a).rename.getD (attrField Options.quickXmlDe im a).ident) = cl!"@" ++ attrLocal a.2 ∧
    (textField Options.quickXmlDe im).rename = some (cl!"$text") ∧
    ((childField hints names' im path trace c).rename.getD (childField hints names' im path trace c).ident) = removeNamespace c.2.name := by
  obtain ⟨-, -, -, hattr⟩ := C01_attr_field Options.quickXmlDe im a
  obtain ⟨-, -, hchild, -⟩ := C01_child_field hints names' im path trace c
  exact ⟨hattr, rfl, hchild⟩

/-- **C02, deserialization** (relative to the deserializer model, which the compile-and-run correspondence
ties to the real crate): for every history of well-formed documents *with their values*, if no two attribute
names and no two child names of one position clash after prefix removal and no child's local name is `$text` or
begins with `@` (`keysOK`; the second part holds of every XML name), then `from_str` into the
first rendered struct — plain and with `deny_unknown_fields` on every struct — succeeds on every source
document that is inside the model (`inModel`: no mixed content, no `xsi:nil`, at most one character-data report per
element), and the non-empty strings of the value are exactly (as a multiset) the attribute values and the character data
of the document as the deserializer reports it (`VNode.values`): nothing of that is dropped, nothing is invented.  (An element without content read as `String` contributes `""`, hence "non-empty".) -/
theorem C02_deserializes (H : List VDoc) (h : historyOk (H.map VDoc.erase)) :
    ∃ t, parseHistory ((H.map VDoc.erase).map Doc.events) = .ok t ∧
      (t.keysOK = true → ∀ deny : Bool, ∀ d ∈ H, d.root.inModel DeCfg.quickXml = true →
        ∃ v, deDoc DeCfg.quickXml ((renderAST Options.quickXmlDe t).map StructDef.plain) deny d.root = .ok v ∧
          (ne v.strings).Perm (ne (d.root.values DeCfg.quickXml))) := by
  obtain ⟨t, ht, -, hadm, hmain⟩ := deDoc_gen scopeQuick H h
  refine ⟨t, ht, fun hk deny d hd hmodel => ?_⟩
  rw [← kept_true_eq_values DeCfg.quickXml t d.root (hadm d hd)]
  exact hmain hk deny (fun _ => rfl) d hd trivial hmodel

/-- **C02 with the side condition stated on the documents**: `specOfDocs` is the executable schema of the
history (C03); `keysOK` of it says that at every position the attribute names, and the child names, stay
distinct when namespace prefixes are removed, and that no child's local name is `$text` or begins with `@`
(`childKeyOK`). -/
theorem C02_holds (H : List VDoc) (h : historyOk (H.map VDoc.erase))
    (hk : (specOfDocs ((H.map VDoc.erase).map (·.root))).keysOK = true) :
    ∃ t, parseHistory ((H.map VDoc.erase).map Doc.events) = .ok t ∧
      ∀ deny : Bool, ∀ d ∈ H, d.root.inModel DeCfg.quickXml = true →
        ∃ v, deDoc DeCfg.quickXml ((renderAST Options.quickXmlDe t).map StructDef.plain) deny d.root = .ok v ∧
          (ne v.strings).Perm (ne (d.root.values DeCfg.quickXml)) := by
  obtain ⟨t, ht, habs, hadm, hmain⟩ := deDoc_gen scopeQuick H h
  have hkt : t.keysOK = true := by rw [← abs_keysOK, habs]; exact hk
  refine ⟨t, ht, fun deny d hd hmodel => ?_⟩
  rw [← kept_true_eq_values DeCfg.quickXml t d.root (hadm d hd)]
  exact hmain hkt deny (fun _ => rfl) d hd trivial hmodel

namespace C02Example
/-- `<r a="1"><e k="v"> hi </e><e k="w"/><g/></r>` -/
def d1 : VDoc := ⟨.nil, .mk (cl!"r") [(cl!"a", cl!"1")] false
  (.elem (.mk (cl!"e") [(cl!"k", cl!"v")] false (.text false (cl!" hi ") .nil))
  (.elem (.mk (cl!"e") [(cl!"k", cl!"w")] true .nil)
  (.elem (.mk (cl!"g") [] true .nil) .nil))), .nil⟩
/-- `<r><f>t</f><!-- c --></r>` -/
def d2 : VDoc := ⟨.nil, .mk (cl!"r") [] false
  (.elem (.mk (cl!"f") [] false (.text false (cl!"t") .nil)) (.other false .nil)), .nil⟩
def H : List VDoc := [d1, d2]

-- the two hypotheses of `C02_holds`
theorem ok : historyOk (H.map VDoc.erase) := by unfold historyOk; decide +kernel
theorem keys : (specOfDocs ((H.map VDoc.erase).map (·.root))).keysOK = true := by decide +kernel
-- the premise on each document that remains in its conclusion
theorem inside : ∀ d ∈ H, d.root.inModel DeCfg.quickXml = true := by decide +kernel

/-- non-vacuity: the hypotheses of `C02_holds` are satisfiable, by a history with attributes, text, a repeated
child, an optional child and an empty element -/
example : ∃ t, parseHistory ((H.map VDoc.erase).map Doc.events) = .ok t ∧
    ∀ deny : Bool, ∀ d ∈ H, d.root.inModel DeCfg.quickXml = true →
      ∃ v, deDoc DeCfg.quickXml ((renderAST Options.quickXmlDe t).map StructDef.plain) deny d.root = .ok v ∧
        (ne v.strings).Perm (ne (d.root.values DeCfg.quickXml)) := C02_holds H ok keys

/-- the tree the library builds for the example history (evaluated in the kernel) -/
def t : Elem := match parseHistory ((H.map VDoc.erase).map Doc.events) with | .ok t => t | .error _ => default

/-- a concrete run of the model on the example: the strings of the value `from_str` gives for
`<r a="1"><e k="v"> hi </e><e k="w"/><g/></r>`, with `deny_unknown_fields`: the attribute values and the trimmed
text, in field order (`g` never has content: it is a struct without fields) -/
theorem run_d1 :
    (match deDoc DeCfg.quickXml ((renderAST Options.quickXmlDe t).map StructDef.plain) true d1.root with
     | .ok v => v.strings
     | .error _ => []) = [cl!"1", cl!"v", cl!"hi", cl!"w"] := by decide +kernel

/-- `<r><a:x k="1"/><b:x k="2"/></r>`: two children whose names clash after prefix removal -/
def dClash : VDoc := ⟨.nil, .mk (cl!"r") [] false
  (.elem (.mk (cl!"a:x") [(cl!"k", cl!"1")] true .nil)
  (.elem (.mk (cl!"b:x") [(cl!"k", cl!"2")] true .nil) .nil)), .nil⟩
def tClash : Elem := match parseHistory ([dClash.erase].map Doc.events) with | .ok t => t | .error _ => default
def isOk : Except DeErr Val → Bool | .ok _ => true | .error _ => false

/-- the side condition is needed: without it the model (like the real deserializer: `duplicate field`) rejects the
source document -/
theorem clash_negative : tClash.keysOK = false ∧ dClash.root.inModel DeCfg.quickXml = true ∧
    isOk (deDoc DeCfg.quickXml ((renderAST Options.quickXmlDe tClash).map StructDef.plain) false dClash.root) = false := by
  decide +kernel
end C02Example

/-- for names in C04's domain, the program the theorems speak about is the one read back from the rendered text (C04) -/
theorem C02_program_is_the_text (t : Elem)
    (hen : ∀ en ∈ walk Options.quickXmlDe.sort [] [] t, nameOK en.elem.name = true ∧ (∀ a ∈ en.elem.attrs, nameOK a.2 = true) ∧
      (∀ c ∈ en.elem.children, nameOK c.2.name = true) ∧ (names en.elem.attrs).Nodup ∧ (childNames en.elem.children).Nodup) :
    readProgram (toSerdeStruct Options.quickXmlDe t) = some ((renderAST Options.quickXmlDe t).map StructDef.plain) :=
  C04_text_reads_back _ t (by unfold NoNL; decide) hen

end Xsg
