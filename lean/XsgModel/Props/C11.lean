import XsgModel.Proofs.Congruence
import XsgModel.Props.C05
/-!
# C11 — output depends only on document structure, not on incidental detail

`normEvents` maps an event stream to a representative that the rewrites
`Text ~ CData`, `[Text, Text] ~ [Text]`, `[ignored] ~ []` (comments, PIs, XML declaration, DOCTYPE) and
`[Empty n a] ~ [Start n a, End]` do not change (instances below; that it is a normal form of the congruence they generate
is not proved, nor needed).  Two streams with the same normal form give the *same element tree*
(all seven fields), hence byte-identical renderings under every option record.

Text content is in the events and is erased by `normEvents`; what the events do not contain at all — attribute values,
comment content, the reader's buffer size — cannot influence the model; that the real reader reports equivalent streams for rewritten bytes is
checked by the correspondence run (byte-level rewrites, both recordings normalised and compared).
-/
namespace Xsg

/-- `into_struct` cannot distinguish equivalent event streams -/
theorem C11_into (e₁ e₂ : List Ev) (h : normEvents e₁ = normEvents e₂) : intoStruct e₁ = intoStruct e₂ :=
  buildFrom_congr _ (Inv_new _ _) h

/-- nor can `extend_struct`, for any tree with unique child names (every tree the parser returns, and every
hand-built tree by C16) -/
theorem C11_extend (t : Elem) (ht : t.Inv = true) (e₁ e₂ : List Ev) (h : normEvents e₁ = normEvents e₂) :
    extendStruct t e₁ = extendStruct t e₂ :=
  buildFrom_congr _ (Inv_addChild t wrapper0 ht (Inv_new _ _)) h

/-- whole histories: document by document equivalent event streams give the same tree, or the same error -/
theorem C11_equiv (H₁ H₂ : List (List Ev)) (h : H₁.map normEvents = H₂.map normEvents) :
    parseHistory H₁ = parseHistory H₂ := by
  rw [← parseHistory_norm H₁, ← parseHistory_norm H₂, h]

/-- hence every rendering is byte-identical -/
theorem C11_render (H₁ H₂ : List (List Ev)) (h : H₁.map normEvents = H₂.map normEvents) (o : Options) :
    (parseHistory H₁).map (toSerdeStruct o) = (parseHistory H₂).map (toSerdeStruct o) := by
  rw [C11_equiv H₁ H₂ h]

/-! the individual rewrites of the property are instances -/

theorem C11_cdata (pre post : List Ev) (a b : Name) :
    normEvents (pre ++ .cdata (.ok a) :: post) = normEvents (pre ++ .text (.ok b) :: post) :=
  normEvents_append_congr pre rfl

theorem C11_comment (pre post : List Ev) : normEvents (pre ++ .ignored :: post) = normEvents (pre ++ post) :=
  normEvents_append_congr pre rfl

theorem C11_empty_spelling (pre post : List Ev) (n : U8) (as : List AttrItem) :
    normEvents (pre ++ .empty n as :: post) = normEvents (pre ++ .start n as :: .endTag :: post) :=
  normEvents_append_congr pre rfl

/-- every tree the parser returns has unique child names at every depth, so `C11_extend` applies to it -/
theorem C11_parsed_inv (H : List (List Ev)) (t : Elem) (h : parseHistory H = .ok t) : t.Inv = true :=
  Inv_parseHistory H t h

/-- the pinned tree (before fix F2): on the element `p` as it stands at the second `p` of `<r><p><Foo/><foo/></p>…`
(`d2State`, written out by hand in Props/C05.lean), closing with `</p>` (snapshot iterated in the hash order `[foo, Foo]`)
and the spelling `<p/>` (empty snapshot, children in stored order) gave different renderings of `p` -/
theorem C11_prefix_negative :
    toSerdeStruct Options.quickXmlDe (tagOptPinned [cl!"foo", cl!"Foo"] d2Snapshot d2State)
      ≠ toSerdeStruct Options.quickXmlDe (tagOptPinned [] [] d2State) := by
  decide +kernel

/-- non-vacuity: two different spellings of one document have the same normal form -/
example : normEvents [.ignored, .start (.ok (cl!"a")) [], .cdata (.ok []), .endTag, .empty (.ok (cl!"b")) [], .eof]
    = normEvents [.start (.ok (cl!"a")) [], .text (.ok (cl!"x")), .ignored, .text (.ok []), .endTag, .start (.ok (cl!"b")) [], .endTag, .ignored, .eof] := by
  decide +kernel

end Xsg
