import XsgModel.Model.Render
import XsgModel.Model.Parser
import XsgModel.Proofs.Lookup
/-!
# C05 — rendering is deterministic

The model is a function, so determinism is only meaningful if the model exposes the nondeterminism the
code has.  After fix F2 the only place the Rust code *iterates* a `HashMap` is `names.iter()` in
`compute_name_hints` (element.rs); `hintTable all order` is the table built when the iteration visits
the keys in the (arbitrary) order `order`.  The theorem shows the rendering does not depend on `order`.
(The correspondence check keeps an inventory of the HashMap/HashSet iteration sites of the source, so a
new site shows up as a broken correspondence.)
-/
namespace Xsg

theorem tableLookup_eq (tbl : List (Name × Nat)) (k : Name) : tableLookup tbl k = lookupLast tbl k := rfl

/-- the hint lookup does not depend on the iteration order of the `HashMap`, as long as every key is visited -/
theorem C05_hints (all : List (Name × List Name)) (order : List Name)
    (hcov : ∀ k, (hintOf all k).isSome → k ∈ order) :
    tableLookup (hintTable all order) = hintOf all := by
  funext k
  -- every binding of the table is a binding of `hintOf all`, whatever the order
  have hmem : ∀ p, p ∈ hintTable all order ↔ p.1 ∈ order ∧ hintOf all p.1 = some p.2 := by
    intro ⟨k, n⟩; simp only [hintTable, List.mem_filterMap, Option.map_eq_some_iff, Prod.mk.injEq]
    exact ⟨fun ⟨_, h, _, h', e, e'⟩ => e ▸ e' ▸ ⟨h, h'⟩, fun ⟨h, h'⟩ => ⟨k, h, n, h', rfl, rfl⟩⟩
  rw [tableLookup_eq, lookupLast_of_agree (f := hintOf all) (fun p hp => ((hmem p).mp hp).2) k]
  split
  · rfl
  · rename_i hk
    cases h : hintOf all k with
    | none => rfl
    | some n => exact absurd (List.mem_map_of_mem (f := (·.1)) ((hmem (k, n)).mpr ⟨hcov k (by simp [h]), h⟩)) hk

/-- byte-identical output for any two iteration orders -/
theorem C05_perm_independent (o : Options) (t : Elem) (order₁ order₂ : List Name)
    (h₁ : ∀ k, (hintOf (fillNames [] t) k).isSome → k ∈ order₁)
    (h₂ : ∀ k, (hintOf (fillNames [] t) k).isSome → k ∈ order₂) :
    printAST (renderWith (tableLookup (hintTable (fillNames [] t) order₁)) o t)
      = printAST (renderWith (tableLookup (hintTable (fillNames [] t) order₂)) o t) := by
  rw [C05_hints _ _ h₁, C05_hints _ _ h₂]

/-- and that output is `to_serde_struct` of the model -/
theorem C05_render_eq (o : Options) (t : Elem) (order : List Name)
    (h : ∀ k, (hintOf (fillNames [] t) k).isSome → k ∈ order) :
    printAST (renderWith (tableLookup (hintTable (fillNames [] t) order)) o t) = toSerdeStruct o t := by
  rw [C05_hints _ _ h]; rfl

/-- any permutation of the keys is such an order -/
theorem C05_perm (all : List (Name × List Name)) (order₁ order₂ : List Name) (hp : order₁.Perm order₂)
    (h₁ : ∀ k, (hintOf all k).isSome → k ∈ order₁) : ∀ k, (hintOf all k).isSome → k ∈ order₂ :=
  fun k hk => hp.mem_iff.mp (h₁ k hk)

/-- parsing is a function of the event streams alone: the model of `into_struct` / `extend_struct` has no
other input (no hash order, no address, no clock) — stated as congruence for completeness -/
theorem C05_parse_function (h₁ h₂ : List (List Ev)) (e : h₁ = h₂) : parseHistory h₁ = parseHistory h₂ := by rw [e]

/-! ## the pinned tree (before fix F2) -/

/-- `tag_optional_children` before fix F2: the first loop walks the snapshot `HashMap` in the order `order` -/
def toOptionalPinned (order : List Name) (S : Snapshot) (C : Elem) : List Name :=
  (order.filter fun k => match getChild C.children k with
    | some c => slookup S k = some c.2.count
    | none => false)
  ++ (C.children.filterMap fun d => if d.1 = .man ∧ (slookup S d.2.name).isNone then some d.2.name else none)

def tagOptPinned (order : List Name) (S : Snapshot) (C : Elem) : Elem :=
  C.setChildren ((toOptionalPinned order S C).reverse.foldl setChildOptional C.children)

/-- the element `p` of `<r><p><Foo/><foo/></p><p></p></r>` when the second `</p>` is reached -/
def d2State : Elem :=
  .mk (cl!"p") false true 2 []
    [(.man, .mk (cl!"Foo") false true 1 [] [] (some 0)), (.man, .mk (cl!"foo") false true 1 [] [] (some 1))] (some 0)

def d2Snapshot : Snapshot := [(cl!"Foo", 1), (cl!"foo", 1)]

/-- two iteration orders of the two-entry snapshot gave two different renderings (which of `Foo`/`foo`
gets the field `foo_1`) -/
theorem C05_prefix_negative :
    toSerdeStruct Options.quickXmlDe (tagOptPinned [cl!"Foo", cl!"foo"] d2Snapshot d2State)
      ≠ toSerdeStruct Options.quickXmlDe (tagOptPinned [cl!"foo", cl!"Foo"] d2Snapshot d2State) := by
  decide +kernel

/-- non-vacuity: the repaired `tagOpt` has no order parameter and yields one of the two -/
example : toSerdeStruct Options.quickXmlDe (tagOpt d2Snapshot d2State)
    = toSerdeStruct Options.quickXmlDe (tagOptPinned [cl!"Foo", cl!"foo"] d2Snapshot d2State) :=
  -- the two trees are equal already, so nothing has to be rendered
  congrArg _ (by rfl : tagOpt d2Snapshot d2State = tagOptPinned [cl!"Foo", cl!"foo"] d2Snapshot d2State)

end Xsg
