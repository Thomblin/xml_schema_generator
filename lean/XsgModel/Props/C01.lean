import XsgModel.Model.Checks
import XsgModel.Model.Render
import XsgModel.Proofs.AdmitsSpec
import XsgModel.Proofs.IdentMap
import XsgModel.Props.C03
import XsgModel.Props.C06
/-!
# C01 — generated structs admit every document they were inferred from

`Admits e o` (Proofs/AdmitsSpec.lean): the element tree `e` (and hence the struct rendered for it, see `C01_fields`) describes the
document element `o`: every attribute and every child of `o` has a field, every non-Option field is
present, every non-Vec child occurs at most once, character data appears only where there is a text field,
and recursively for each child.  `C01_sound`: after parsing the first document and extending with the
others, the tree admits each of the documents.
-/
namespace Xsg

/-- the soundness theorem: for every history of well-formed documents with a common root name, the tree
obtained by `into_struct` + `extend_struct` admits each of the documents -/
theorem C01_sound (H : List Doc) (h : historyOk H) :
    ∃ t, parseHistory (H.map Doc.events) = .ok t ∧ ∀ d ∈ H, Admits t d.root := by
  obtain ⟨t, ht, hm, -⟩ := parse_history H h
  exact ⟨t, ht, fun d hd => matches_admits hm d.root (List.mem_map_of_mem hd)⟩

/-- the same for inputs that repeat their root element: the tree admits every top-level element of every input -/
theorem C01_sound_fragments (F : List Items) (k : Name) (h : fragmentsOk F k) :
    ∃ t, parseHistory (F.map fragEvents) = .ok t ∧ ∀ is ∈ F, ∀ o ∈ is.named k, Admits t o := by
  obtain ⟨t, ht, hm, -⟩ := parse_fragments F k h
  exact ⟨t, ht, fun is his o ho => matches_admits hm o (List.mem_flatMap.mpr ⟨is, his, ho⟩)⟩

/-- and for a sub-structure of a parsed structure extended with further documents: it admits every occurrence
of that element in the parsed documents and every new document -/
theorem C01_sound_substructure (H : List Doc) (h : historyOk H) (p : List Name) (ds : List Doc) :
    ∃ t, parseHistory (H.map Doc.events) = .ok t ∧
      ∀ s, elemAt p t = some s → (∀ d ∈ ds, d.ok = true ∧ d.root.name = s.name) →
        ∃ r, (ds.map Doc.events).foldl extendStep (Except.ok s) = .ok r ∧
          (∀ o ∈ occsAt p (H.map (·.root)), Admits r o) ∧ ∀ d ∈ ds, Admits r d.root := by
  obtain ⟨t, ht, hsub⟩ := C06_substructure H h p ds
  refine ⟨t, ht, ?_⟩
  intro s hs hds
  obtain ⟨r, hr, hm, -⟩ := hsub s hs hds
  exact ⟨r, hr, fun o ho => matches_admits hm o (List.mem_append_left _ ho),
    fun d hd => matches_admits hm d.root (List.mem_append_right _ (List.mem_map_of_mem hd))⟩

/-- under the property's side condition (no two attribute names of one position differ only by namespace
prefix) the serde names attributes are bound to are pairwise distinct, so "has a field" means "has a field
bound to its XML name" -/
theorem C01_attr_bindings_distinct {t : Elem} {occs : List Node} (h : Matches t occs)
    (hc : ((dedupNames (occs.flatMap Node.attrs)).map attrLocal).Nodup) : ((names t.attrs).map attrLocal).Nodup := by
  rw [h.attrs]; exact hc

/-- the same for children: distinct child names of one position have distinct local names -/
theorem C01_child_bindings_distinct {t : Elem} {occs : List Node} (h : Matches t occs)
    (hc : ∀ o ∈ occs, ∀ o' ∈ occs, ∀ k k', o.named k ≠ [] → o'.named k' ≠ [] → removeNamespace k = removeNamespace k' → k = k') :
    ∀ k k', getChild t.children k ≠ none → getChild t.children k' ≠ none → removeNamespace k = removeNamespace k' → k = k' := by
  intro k k' hk hk' e
  obtain ⟨o, ho, hn⟩ := (h.mem_childNames k).mp (mem_childNames_iff.mpr hk)
  obtain ⟨o', ho', hn'⟩ := (h.mem_childNames k').mp (mem_childNames_iff.mpr hk')
  exact hc o ho o' ho' k k' hn hn' e

/-- the struct rendered for an element has exactly one field per attribute, one text field iff the text flag
is set, and one field per child -/
theorem C01_fields (o : Options) (hints : Name → Option Nat) (names' : List (List Name × Name)) (en : Entry) :
    (structOf o hints names' en).fields =
      (sortedAttrs o en.elem).map (attrField o (identMap en.elem))
      ++ (if en.elem.text then [textField o (identMap en.elem)] else [])
      ++ (sortedChildren o en.elem).map (childField hints names' (identMap en.elem) en.path en.trace) := rfl

/-- an attribute's field is `Option` iff the tag is optional, never `Vec`, a `String`, and bound to prefix + local name -/
theorem C01_attr_field (o : Options) (im : IdentMap) (a : Nec × Name) :
    (attrField o im a).opt = decide (a.1 = .opt) ∧ (attrField o im a).vec = false ∧ (attrField o im a).base = stringTy ∧
    ((attrField o im a).rename.getD (attrField o im a).ident) = o.attrPrefix ++ attrLocal a.2 :=
  ⟨rfl, rfl, rfl, attrField_bound o im a⟩

/-- a child's field is `Option` iff the tag is optional, `Vec` iff the child is not standalone, bound to the local name,
and a `String` iff the child holds only text (or its struct were named `String`, which `C04_structs_not_reserved` excludes) -/
theorem C01_child_field (hints : Name → Option Nat) (names' : List (List Name × Name)) (im : IdentMap)
    (path trace : List Name) (c : Nec × Elem) :
    let f := childField hints names' im path trace c
    f.opt = decide (c.1 = .opt) ∧ f.vec = !c.2.standalone ∧ (f.rename.getD f.ident) = removeNamespace c.2.name ∧
    (f.base = stringTy ↔ c.2.textOnly = true ∨ structNameOf hints names' (path ++ [c.2.name]) (trace ++ [pascal c.2.name]) c.2 = stringTy) := by
  refine ⟨rfl, rfl, childField_bound .., ?_⟩
  simp only [childField]
  by_cases h : c.2.textOnly = true <;> simp [h]

/-- non-vacuity: the three-document example history of C03 satisfies the hypothesis -/
example : ∃ t, parseHistory (exampleHistory.map Doc.events) = .ok t ∧ ∀ d ∈ exampleHistory, Admits t d.root := by
  apply C01_sound
  unfold historyOk
  decide +kernel

/-- the Boolean function the check evaluates on the schema read back from the implementation's text decides
exactly the declarative relation `SAdmits` (every attribute and child has a field bound to its local name, every
non-Option field occurs, every non-Vec child at most once, character data only beside a text field, recursively):
for every schema and every document element -/
theorem C01_admits_decides (s : Schema) (o : Node) : admits s o = true ↔ SAdmits s o := admits_iff s o

end Xsg
