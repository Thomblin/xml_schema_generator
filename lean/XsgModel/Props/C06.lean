import XsgModel.Proofs.Faults
import XsgModel.Proofs.Unique
import XsgModel.Proofs.History
import XsgModel.Proofs.SpecOf
/-!
# C06 — extending with further documents behaves like inferring from their union

Corollaries of `parse_history` / `parse_fragments` (the tree `Matches` the list of all roots supplied so far) and of
`matches_unique` / `matches_grows` (the clauses of `Matches` that `Grows` and `SchemaEq` keep depend on *membership* in
the list of occurrences only).
`SchemaEq` is equality of schemas up to field order: text flag, attribute names and necessity, child names,
necessity, multiplicity, nesting.
-/
namespace Xsg

/-- extending a parsed structure with further documents yields the schema of the union of all occurrences -/
theorem C06_union (H₁ H₂ : List Doc) (h : historyOk (H₁ ++ H₂)) (h₁ : H₁ ≠ []) :
    ∃ t₁ t, parseHistory (H₁.map Doc.events) = .ok t₁ ∧
      (H₂.map Doc.events).foldl extendStep (Except.ok t₁) = .ok t ∧
      Matches t ((H₁ ++ H₂).map (·.root)) := by
  obtain ⟨t₁, ht₁, hm₁, hn⟩ := parse_history H₁ (h.of_subset h₁ fun d hd => List.mem_append_left _ hd)
  obtain ⟨d₁, hd₁⟩ := List.exists_mem_of_ne_nil H₁ h₁
  obtain ⟨t, ht, hmt, -⟩ := extend_fold H₂ t₁ (H₁.map (·.root)) (by simpa using h₁) hm₁ fun d hd =>
    ⟨h.ok d (List.mem_append_right _ hd),
      ((hn d₁ hd₁).trans (h.same_root d₁ (List.mem_append_left _ hd₁) d (List.mem_append_right _ hd))).symm⟩
  exact ⟨t₁, t, ht₁, ht, by simpa using hmt⟩

/-- the schema does not depend on the order in which the documents are supplied, nor on supplying a document
several times: two histories with the same set of documents give the same schema up to field order -/
theorem C06_order (H H' : List Doc) (h : historyOk H) (h' : historyOk H') (hset : ∀ d, d ∈ H ↔ d ∈ H') :
    ∃ t t', parseHistory (H.map Doc.events) = .ok t ∧ parseHistory (H'.map Doc.events) = .ok t' ∧ SchemaEq t t' := by
  obtain ⟨t, ht, hm, -⟩ := parse_history H h
  obtain ⟨t', ht', hm', -⟩ := parse_history H' h'
  exact ⟨t, t', ht, ht', matches_unique hm hm' fun o => by simp only [List.mem_map, hset]⟩

theorem C06_perm (H H' : List Doc) (h : historyOk H) (hp : H.Perm H') :
    ∃ t t', parseHistory (H.map Doc.events) = .ok t ∧ parseHistory (H'.map Doc.events) = .ok t' ∧ SchemaEq t t' :=
  C06_order H H' h (h.of_subset (fun e => h.ne_nil (by subst e; exact hp.eq_nil)) fun _ => hp.mem_iff.mpr) fun _ => hp.mem_iff

theorem C06_idempotent (H : List Doc) (d : Doc) (h : historyOk H) (hd : d ∈ H) :
    ∃ t t', parseHistory (H.map Doc.events) = .ok t ∧ parseHistory ((H ++ [d]).map Doc.events) = .ok t' ∧ SchemaEq t t' := by
  have hsub : ∀ x, x ∈ H ++ [d] ↔ x ∈ H := fun x => by
    simp only [List.mem_append, List.mem_singleton]; exact ⟨fun hx => hx.elim id (· ▸ hd), Or.inl⟩
  exact C06_order H (H ++ [d]) h (h.of_subset (by simp) fun x => (hsub x).mp) fun x => (hsub x).symm

/-- extension never drops a field, never turns an Option field into a required one or a Vec field into a single one -/
theorem C06_monotone (H₁ H₂ : List Doc) (h : historyOk (H₁ ++ H₂)) (h₁ : H₁ ≠ []) :
    ∃ t₁ t, parseHistory (H₁.map Doc.events) = .ok t₁ ∧ parseHistory ((H₁ ++ H₂).map Doc.events) = .ok t ∧ Grows t₁ t := by
  obtain ⟨t₁, ht₁, hm₁, -⟩ := parse_history H₁ (h.of_subset h₁ fun d hd => List.mem_append_left _ hd)
  obtain ⟨t, ht, hm, -⟩ := parse_history (H₁ ++ H₂) h
  exact ⟨t₁, t, ht₁, ht, matches_grows hm₁ hm fun o ho => by rw [List.map_append]; exact List.mem_append_left _ ho⟩

/-- an empty or element-less input (nothing, comments only, white space or text only, prolog only) returns the
tree *identical* (a tree that came out of the parser has a position; for a hand-built one it is filled in) -/
theorem C06_empty (t : Elem) (evs : List Ev) (h1 : firstFault 0 evs = none) (h2 : hasElement 0 evs = false) :
    extendStruct t evs = .ok (if t.position.isNone then t.setPosition (some 0) else t) := by
  rw [extendStruct, buildFrom_elementless _ evs h1 h2, extractRoot_eq, extendWrapper_children]
  rfl

theorem C06_empty_parsed (t : Elem) (evs : List Ev) (p : Nat) (hp : t.position = some p)
    (h1 : firstFault 0 evs = none) (h2 : hasElement 0 evs = false) : extendStruct t evs = .ok t := by
  rw [C06_empty t evs h1 h2]; simp [hp]

/-- C06 for sub-structures: the element found at a path of child names inside a parsed structure (for
example a repeated element taken out of a larger tree: its `standalone` flag is off, its counter is not 1)
can be extended with documents of its own name, and the result is the schema of the union of *all its
occurrences* in the parsed documents and the new documents. -/
theorem C06_substructure (H : List Doc) (h : historyOk H) (p : List Name) (ds : List Doc) :
    ∃ t, parseHistory (H.map Doc.events) = .ok t ∧
      ∀ s, elemAt p t = some s → (∀ d ∈ ds, d.ok = true ∧ d.root.name = s.name) →
        ∃ r, (ds.map Doc.events).foldl extendStep (Except.ok s) = .ok r ∧
          Matches r (occsAt p (H.map (·.root)) ++ ds.map (·.root)) ∧ r.name = s.name := by
  obtain ⟨t, ht, hm, -⟩ := parse_history H h
  refine ⟨t, ht, ?_⟩
  intro s hs hds
  obtain ⟨hms, hocc⟩ := hm.at_path hm.ne_nil p s hs
  exact extend_fold ds s _ hocc hms hds

/-- the same, in the form the driver checks: the schema is what the executable specification computes -/
theorem C06_substructure_spec (H : List Doc) (h : historyOk H) (p : List Name) (ds : List Doc) :
    ∃ t, parseHistory (H.map Doc.events) = .ok t ∧
      ∀ s, elemAt p t = some s → (∀ d ∈ ds, d.ok = true ∧ d.root.name = s.name) →
        ∃ r, (ds.map Doc.events).foldl extendStep (Except.ok s) = .ok r ∧
          r.abs = specOfDocs (occsAt p (H.map (·.root)) ++ ds.map (·.root)) :=
  let ⟨t, ht, hsub⟩ := C06_substructure H h p ds
  ⟨t, ht, fun s hs hds => let ⟨r, hr, hmr, _⟩ := hsub s hs hds; ⟨r, hr, matches_abs_eq_specOfDocs hmr⟩⟩

/-- C06 for inputs that repeat their root element (the reader does not insist on a single root): two
histories of such inputs with the same top-level elements give the same schema, however the elements are
grouped into inputs. -/
theorem C06_regroup (F F' : List Items) (k : Name) (h : fragmentsOk F k) (h' : fragmentsOk F' k)
    (hset : ∀ o, o ∈ F.flatMap (·.named k) ↔ o ∈ F'.flatMap (·.named k)) :
    ∃ t t', parseHistory (F.map fragEvents) = .ok t ∧ parseHistory (F'.map fragEvents) = .ok t' ∧ SchemaEq t t' := by
  obtain ⟨t, ht, hm, -⟩ := parse_fragments F k h
  obtain ⟨t', ht', hm', -⟩ := parse_fragments F' k h'
  exact ⟨t, t', ht, ht', matches_unique hm hm' hset⟩

/-- the schema after a history of such inputs is what the executable specification computes for all their
top-level elements -/
theorem C06_fragments_spec (F : List Items) (k : Name) (h : fragmentsOk F k) :
    ∃ t, parseHistory (F.map fragEvents) = .ok t ∧ t.abs = specOfDocs (F.flatMap (·.named k)) := by
  obtain ⟨t, ht, hm, -⟩ := parse_fragments F k h
  exact ⟨t, ht, matches_abs_eq_specOfDocs hm⟩

/-- in particular: documents supplied one by one, or concatenated into fewer inputs -/
theorem C06_concat (H : List Doc) (h : historyOk H) (F : List Items) (k : Name) (hF : fragmentsOk F k)
    (hset : ∀ o, o ∈ H.map (·.root) ↔ o ∈ F.flatMap (·.named k)) :
    ∃ t t', parseHistory (H.map Doc.events) = .ok t ∧ parseHistory (F.map fragEvents) = .ok t' ∧ SchemaEq t t' := by
  obtain ⟨t, ht, hm, -⟩ := parse_history H h
  obtain ⟨t', ht', hm', -⟩ := parse_fragments F k hF
  exact ⟨t, t', ht, ht', matches_unique hm hm' hset⟩

/-- a document is such an input -/
theorem C06_doc_is_fragment (d : Doc) (h : d.ok = true) :
    d.events = fragEvents d.items ∧ d.items.ok = true ∧ d.items.rootsNamed d.root.name ∧
      d.items.named d.root.name = [d.root] :=
  ⟨d.events_eq, d.items_ok h, d.items_rootsNamed h, by simp [d.items_named h]⟩

/-- a failed extension reports an error rather than a (partial) tree -/
theorem C06_error_no_partial (t : Elem) (evs : List Ev) (e : PErr) (h : extendStruct t evs = .error e) :
    ∀ t', extendStruct t evs ≠ .ok t' := by
  intro t' h'; rw [h] at h'; cases h'

/-- non-vacuity: comment-only, white-space-only and empty inputs are element-less -/
example : firstFault 0 [.ignored, .text (.ok []), .eof] = none ∧ hasElement 0 [.ignored, .text (.ok []), .eof] = false := by decide +kernel
example : firstFault 0 [.eof] = none ∧ hasElement 0 [.eof] = false := by decide +kernel

/-- non-vacuity of `C06_substructure`: in `<a><b/><b x=""/></a>` the element at path `b` exists and is marked as repeated -/
example :
    let d : Doc := ⟨.nil, .mk (cl!"a") [] false (.elem (.mk (cl!"b") [] true .nil) (.elem (.mk (cl!"b") [cl!"x"] true .nil) .nil)), .nil⟩
    (match parseHistory [d.events] with
     | .ok t => (elemAt [(cl!"b")] t).map (fun s => (s.standalone, s.count))
     | .error _ => none) = some (false, 2) := by decide +kernel

/-- non-vacuity of `C06_regroup`: `<a><x/></a><a><y/></a>` as one input is a history in the sense of `fragmentsOk` -/
example :
    let a1 : Node := .mk (cl!"a") [] false (.elem (.mk (cl!"x") [] true .nil) .nil)
    let a2 : Node := .mk (cl!"a") [] false (.elem (.mk (cl!"y") [] true .nil) .nil)
    fragmentsOk [Items.elem a1 (.other (.elem a2 .nil))] (cl!"a") := by
  intro a1 a2
  refine ⟨by simp, ?_⟩
  intro is his
  simp only [List.mem_singleton] at his
  subst his
  refine ⟨by decide, by decide, ?_⟩
  intro d hd
  have : ¬ (cl!"a") = d := fun e => hd e.symm
  simp [Items.named, Node.name, a1, a2, this]

end Xsg
