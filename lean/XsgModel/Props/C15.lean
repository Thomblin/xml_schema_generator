import XsgModel.Proofs.Necessity
/-!
# C15 — public list merge: union, conjunction of necessity, stable order

For any two duplicate-free lists of optional/mandatory items, `merge_necessity` returns each distinct
item exactly once, an item is mandatory iff it is mandatory in both lists, the first list's items keep
their order and come first, the items found only in the second list follow in their original order.
All statements are for every payload type with decidable equality and for lists of any length.
-/
namespace Xsg

variable {α : Type} [DecidableEq α]

/-- order: first list, then the second-only items in their original relative order -/
theorem C15_names (xs ys : List (Nec × α)) (hys : (names ys).Nodup) :
    names (mergeNec xs ys) = names xs ++ (names ys).filter (fun a => a ∉ names xs) :=
  mergeNec_names xs ys hys

theorem C15_exactly_once (xs ys : List (Nec × α)) (hxs : (names xs).Nodup) (hys : (names ys).Nodup) :
    (names (mergeNec xs ys)).Nodup ∧ ∀ a, a ∈ names (mergeNec xs ys) ↔ a ∈ names xs ∨ a ∈ names ys :=
  ⟨nodup_names_mergeNec xs ys hxs hys, mem_names_mergeNec xs ys hys⟩

theorem C15_mandatory_iff (xs ys : List (Nec × α)) (hys : (names ys).Nodup) (a : α) :
    (Nec.man, a) ∈ mergeNec xs ys ↔ (Nec.man, a) ∈ xs ∧ (Nec.man, a) ∈ ys :=
  mergeNec_man_iff xs ys hys a

/-- every item of the result is tagged; an item that is not mandatory is optional (true of any tagged list) — so together
with `C15_mandatory_iff` and `C15_exactly_once` the tag of every item is determined -/
theorem C15_tag_total (xs ys : List (Nec × α)) (a : α) (h : a ∈ names (mergeNec xs ys)) :
    (Nec.man, a) ∈ mergeNec xs ys ∨ (Nec.opt, a) ∈ mergeNec xs ys := by
  simp only [names, List.mem_map] at h
  obtain ⟨⟨n, b⟩, hm, rfl⟩ := h
  cases n
  · exact Or.inr hm
  · exact Or.inl hm

/-- non-vacuity: the doc-test example of `merge_necessity` satisfies the hypotheses and gives the documented result -/
example : (names [(Nec.man, 1), (Nec.man, 3), (Nec.opt, 4)]).Nodup ∧
    mergeNec [(Nec.man, 1), (Nec.man, 2), (Nec.man, 4)] [(Nec.man, 1), (Nec.man, 3), (Nec.opt, 4)]
      = [(Nec.man, 1), (Nec.opt, 2), (Nec.opt, 4), (Nec.opt, 3)] := by decide +kernel

/-- the pinned tree (before fix F1) violated the order clause: two second-only items come out reversed -/
theorem C15_prefix_negative :
    names (mergeNecPinned [(Nec.man, 0)] [(Nec.man, 0), (Nec.man, 1), (Nec.man, 2)])
      ≠ names [(Nec.man, 0)] ++ (names [(Nec.man, 0), (Nec.man, 1), (Nec.man, 2)]).filter (fun a => a ∉ names [(Nec.man, 0)]) := by
  decide +kernel

end Xsg
