import XsgModel.Proofs.History
import XsgModel.Proofs.SpecOf
import XsgModel.Proofs.StructCount
/-!
# C03 — Optional / Vec / text inference is exact, not merely safe

`C03_exact`: for every history of well-formed documents with a common root name — any number of documents,
any tree shape and depth, any placement of text / CDATA / comments / PIs, `<x/>` or `<x></x>` — parsing
the first document with `into_struct` and extending with the others succeeds, and the resulting element
tree `Matches` the list of root elements: the relational specification whose clauses are exactly the
property's iff-statements (see `Proofs/Matches.lean`).  The clauses are re-exported one by one below.

Proof: the stack machine on a document's events equals the tree-level semantics `absorbNode`
(`Proofs/Refine.lean`, induction on the document tree), `absorbNode` rebuilds the entry of one child name
according to `Post` (`Proofs/AbsorbSpec.lean`, mutual structural induction), and demotion by counter
snapshot realises "present in every occurrence" (`Proofs/Central.lean`: `getChild_tagOpt_snapshot`,
`KidMatches.absorb`, `merge_matches`).
-/
namespace Xsg

theorem C03_exact (d : Doc) (ds : List Doc) (h : historyOk (d :: ds)) :
    ∃ t, parseHistory ((d :: ds).map Doc.events) = .ok t ∧ Matches t ((d :: ds).map (·.root)) :=
  let ⟨t, ht, hm, _⟩ := parse_history (d :: ds) h
  ⟨t, ht, hm⟩

/-- the same statement through the *executable* specification: the schema of the parsed tree (counters
forgotten, children in `position` order) is literally `specOfDocs` of the document roots — the function the
correspondence check evaluates on the DOM of the generated documents ("presence in all occurrences / more than
once in some occurrence / any text", computed without counters, snapshots or `known` lists), field order included -/
theorem C03_spec_exact (H : List Doc) (h : historyOk H) :
    ∃ t, parseHistory (H.map Doc.events) = .ok t ∧ t.abs = specOfDocs (H.map (·.root)) :=
  let ⟨t, ht, hm, _⟩ := parse_history H h
  ⟨t, ht, matches_abs_eq_specOfDocs hm⟩

/-- `Matches` and `specOf` agree at every position and every depth, for every fuel that bounds the depth of the occurrences -/
theorem C03_matches_spec {t : Elem} {occs : List Node} (h : Matches t occs) (hne : occs ≠ []) (fuel : Nat)
    (hd : ∀ o ∈ occs, o.depth ≤ fuel) : t.abs = specOf fuel occs := abs_eq_specOf h fuel hd

/-- every position of the tree is exact for the occurrences of that position (nesting) -/
theorem C03_nested {t : Elem} {occs : List Node} (h : Matches t occs) (k : Name) (nec : Nec) (c : Elem)
    (hc : getChild t.children k = some (nec, c)) : Matches c (occs.flatMap (Node.named k)) := h.child k nec c hc

/-- a child field is non-Option iff the child is present in every occurrence of its parent -/
theorem C03_option_iff {t : Elem} {occs : List Node} (h : Matches t occs) (k : Name) (nec : Nec) (c : Elem)
    (hc : getChild t.children k = some (nec, c)) : nec = .man ↔ ∀ o ∈ occs, o.named k ≠ [] := h.man_iff k nec c hc

/-- an attribute field is non-Option iff the attribute is present in every occurrence -/
theorem C03_attr_option_iff {t : Elem} {occs : List Node} (h : Matches t occs) (a : Name) :
    (Nec.man, a) ∈ t.attrs ↔ ∀ o ∈ occs, a ∈ o.attrs := h.attr_man a

/-- a child field is a Vec iff some parent occurrence contains that child more than once -/
theorem C03_vec_iff {t : Elem} {occs : List Node} (h : Matches t occs) (k : Name) (nec : Nec) (c : Elem)
    (hc : getChild t.children k = some (nec, c)) : c.standalone = false ↔ ∃ o ∈ occs, 2 ≤ (o.named k).length :=
  h.multi_iff k nec c hc

/-- the text flag is set iff some occurrence contains a text or CDATA node -/
theorem C03_text_iff {t : Elem} {occs : List Node} (h : Matches t occs) : t.text = true ↔ ∃ o ∈ occs, o.hasText = true := by
  rw [h.text]; simp

/-- exactly one field per distinct attribute name and per distinct child name seen at that position, and nothing else -/
theorem C03_one_field_per_name {t : Elem} {occs : List Node} (h : Matches t occs) :
    (names t.attrs).Nodup ∧ (∀ a, a ∈ names t.attrs ↔ ∃ o ∈ occs, a ∈ o.attrs) ∧
    (childNames t.children).Nodup ∧ (∀ k, k ∈ childNames t.children ↔ ∃ o ∈ occs, o.named k ≠ []) := by
  exact ⟨by rw [h.attrs]; exact nodup_dedupNames _, h.mem_attrs, h.nodup, h.mem_childNames⟩

/-- a childless, attribute-less position is typed `String` iff it has text: `textOnly` is the renderer's test -/
theorem C03_string_iff {t : Elem} {occs : List Node} (h : Matches t occs) :
    t.textOnly = true ↔ (∃ o ∈ occs, o.hasText = true) ∧ (∀ o ∈ occs, o.attrs = []) ∧ ∀ o ∈ occs, ∀ k, o.named k = [] := by
  obtain ⟨-, ha, -, hk⟩ := C03_one_field_per_name h
  -- a list of fields is empty iff no occurrence contributes a name to it
  have hattrs : t.attrs = [] ↔ ∀ o ∈ occs, o.attrs = [] := by
    rw [← List.map_eq_nil_iff (f := (·.2)), List.eq_nil_iff_forall_not_mem]
    simp only [List.eq_nil_iff_forall_not_mem]
    exact ⟨fun hn o ho a hm => hn a ((ha a).mpr ⟨o, ho, hm⟩), fun hn a hm => let ⟨o, ho, hm'⟩ := (ha a).mp hm; hn o ho a hm'⟩
  have hkids : t.children = [] ↔ ∀ o ∈ occs, ∀ k, o.named k = [] := by
    rw [← List.map_eq_nil_iff (f := (·.2.name)), List.eq_nil_iff_forall_not_mem]
    exact ⟨fun hn o ho k => Decidable.byContradiction fun hm => hn k ((hk k).mpr ⟨o, ho, hm⟩),
      fun hn k hm => let ⟨o, ho, hm'⟩ := (hk k).mp hm; hm' (hn o ho k)⟩
  simp only [Elem.textOnly, Bool.and_eq_true, List.isEmpty_iff, C03_text_iff h, hattrs, hkids, and_assoc]

/-- the order of attributes is the order of first appearance over the occurrences -/
theorem C03_attr_order {t : Elem} {occs : List Node} (h : Matches t occs) :
    names t.attrs = dedupNames (occs.flatMap Node.attrs) := h.attrs

/-- non-vacuity: a three-document history (optional child re-seen in the third document under a parent that
was self-closing in the second) satisfies the hypotheses -/
def exampleHistory : List Doc :=
  let el (n : Name) (as : List Name) (sc : Bool) (items : Items) : Node := .mk n as sc items
  [ ⟨.nil, el (cl!"r") [] false (.elem (el (cl!"p") [cl!"x"] false (.elem (el (cl!"a") [] true .nil) (.elem (el (cl!"b") [] true .nil) .nil))) .nil), .nil⟩,
    ⟨.other .nil, el (cl!"r") [] false (.elem (el (cl!"p") [] true .nil) .nil), .text false .nil⟩,
    ⟨.nil, el (cl!"r") [] false (.elem (el (cl!"p") [cl!"y"] false (.elem (el (cl!"a") [] true .nil) (.elem (el (cl!"a") [] true .nil) (.text true .nil)))) .nil), .nil⟩ ]

example : historyOk exampleHistory := by
  refine ⟨by simp [exampleHistory], ?_, ?_⟩
  · intro d hd; simp only [exampleHistory, List.mem_cons, List.mem_nil_iff, or_false] at hd
    rcases hd with rfl | rfl | rfl <;> decide +kernel
  · intro d hd d' hd'; simp only [exampleHistory, List.mem_cons, List.mem_nil_iff, or_false] at hd hd'
    rcases hd with rfl | rfl | rfl <;> rcases hd' with rfl | rfl | rfl <;> rfl

/-- "one struct per non-`String` position, and nothing else", as a count: the number of rendered structs is
`structCount` of the schema (one for the root, one for every other position that is not typed `String`), which for a
parsed history is the schema `specOfDocs` of the documents -/
theorem C03_struct_count (o : Options) (t : Elem) : (renderAST o t).length = t.abs.structCount := by
  simp only [renderAST, renderWith, List.length_map]
  exact walk_length o.sort t [] []

theorem C03_struct_count_history (o : Options) (H : List Doc) (h : historyOk H) :
    ∃ t, parseHistory (H.map Doc.events) = .ok t ∧ (renderAST o t).length = (specOfDocs (H.map (·.root))).structCount := by
  obtain ⟨t, ht, habs⟩ := C03_spec_exact H h
  exact ⟨t, ht, by rw [C03_struct_count, habs]⟩

end Xsg
