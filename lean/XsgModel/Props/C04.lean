import XsgModel.Model.RustSyntax
import XsgModel.Proofs.PascalLegal
import XsgModel.Proofs.StructNames
import XsgModel.Proofs.TextLevel
import XsgModel.Proofs.TreeNames
import XsgModel.Proofs.UsedOnce
import XsgModel.Props.C14
/-!
# C04 — rendered source is well-formed Rust with unique, legal names

`C04_wellformed` is C04 for trees: if every name of the tree is in C04's domain (`nameOK`), attribute names are distinct
per element (`TreeOK`: `parse_treeOK` for parsed trees, `C16_names_seq` for hand-built ones) and child names per parent
(`Elem.Inv`: `Matches.inv`, `C16_inv_seq`), the rendered program is `WellFormed`.  `C04_history` is C04 for histories of documents, about the rendered *text*:
`C04_text_reads_back` shows that the text reads back as the rendered program.  The clauses of `WellFormed`, for every
option record:
* `C04_structs_unique`, `C04_structs_not_reserved`: every struct name is defined exactly once and is none of
  `Self`, `String`, `Option`, `Vec`, `Serialize`, `Deserialize` (fix F4);
* `C04_fields_unique`: the field identifiers of one struct are pairwise distinct;
* `C04_types_resolve`: every field type is `String` or the name of a struct of the same output;
* `C04_used_once`: every struct but the first is the type of exactly one field;
* `C04_fields_legal`, `C04_structs_legal`: every field identifier is a legal non-keyword identifier and every
  struct name a legal type identifier that does not shadow `String`, `Option`, `Vec` — for names whose first
  alphanumeric character is a letter (`LetterFirst`, implied by C04's side condition `nameOK`), with the
  character classes of the model (`Model/Chars.lean`, equal to Rust's on the supported alphabet Σ, which the
  correspondence run checks exhaustively).

`C04_while_terminates`: the two suffix loops terminate (pigeonhole).
`C04_prefix_negative`: the bare expansion the pinned naming function used gives `Self`; `pascal` gives `String` and merges `Foo` / `foo`.
-/
namespace Xsg

theorem C04_structs_unique (o : Options) (t : Elem) (ht : t.Inv = true) : ((renderAST o t).map (·.name)).Nodup :=
  (struct_names_spec _ o t ht).1

theorem C04_structs_not_reserved (o : Options) (t : Elem) (ht : t.Inv = true) :
    ∀ s ∈ renderAST o t, s.name ≠ cl!"Self" ∧ s.name ≠ cl!"String" ∧ s.name ≠ cl!"Option" ∧ s.name ≠ cl!"Vec" ∧
      s.name ≠ cl!"Serialize" ∧ s.name ≠ cl!"Deserialize" := by
  intro s hs
  have := (struct_names_spec _ o t ht).2 s hs
  simp only [reservedStructNames, List.mem_cons, List.mem_nil_iff, or_false, not_or] at this
  exact this

theorem C04_fields_unique (o : Options) (H : Name → Option Nat) (names' : List (List Name × Name)) (en : Entry)
    (ha : (names en.elem.attrs).Nodup) (hc : (childNames en.elem.children).Nodup) :
    ((structOf o H names' en).fields.map (·.ident)).Nodup :=
  (field_idents_spec (fun _ => True) o H names' en ha hc (fun _ _ _ => trivial) (fun _ _ _ => trivial) fun _ => trivial).1

theorem C04_types_resolve (o : Options) (t : Elem) :
    ∀ s ∈ renderAST o t, ∀ f ∈ s.fields, f.base = stringTy ∨ ∃ s' ∈ renderAST o t, s'.name = f.base := by
  intro s hs f hf
  obtain ⟨en, hen, rfl⟩ := mem_renderWith hs
  rcases mem_structOf_fields.mp hf with ⟨a, _, rfl⟩ | ⟨_, rfl⟩ | ⟨c, hcm, rfl⟩
  · exact Or.inl rfl
  · exact Or.inl rfl
  · cases hto : c.2.textOnly
    · -- the child's own entry is in the walk
      exact Or.inr ⟨structOf o _ _ _, List.mem_map_of_mem (child_entry_mem o.sort en c hcm hto t [] [] hen),
        (childField_base_struct _ _ _ _ _ c hto).symm⟩
    · exact Or.inl (childField_base_string _ _ _ _ _ c hto)

theorem C04_used_once (o : Options) (t : Elem) (ht : t.Inv = true) :
    ∀ s ∈ ((renderAST o t).map StructDef.plain).tail, usesOf ((renderAST o t).map StructDef.plain) s.name = 1 :=
  used_once _ o t ht

theorem C04_fields_legal (o : Options) (H : Name → Option Nat) (names' : List (List Name × Name)) (en : Entry)
    (hn : LetterFirst en.elem.name) (ha : ∀ a ∈ en.elem.attrs, LetterFirst a.2) (hc : ∀ c ∈ en.elem.children, LetterFirst c.2.name)
    (hnda : (names en.elem.attrs).Nodup) (hndc : (childNames en.elem.children).Nodup) :
    ∀ f ∈ (structOf o H names' en).fields, legalIdent f.ident = true :=
  fields_legal o H names' en ⟨hn, ha, hc, hnda, hndc⟩

theorem C04_nameOK_letterFirst (n : Name) (h : nameOK n = true) : LetterFirst n := nameOK_letterFirst h

theorem C04_struct_name_alnum (o : Options) (t : Elem) : ∀ s ∈ renderAST o t, s.name.all isAlnum = true := by
  intro s hs
  obtain ⟨j, digits, -, hname, hdig⟩ := C14_shape o t s hs
  exact hname ▸ pascalPath_alnum s.path j hdig

theorem C04_structs_legal (o : Options) (t : Elem) (ht : t.Inv = true)
    (hnames : ∀ en ∈ walk o.sort [] [] t, ∀ p ∈ en.path, LetterFirst p) :
    ∀ s ∈ renderAST o t, legalTypeIdent s.name = true := by
  intro s hs
  obtain ⟨j, digits, hj, hname, -⟩ := C14_shape o t s hs
  obtain ⟨en, hen, hse⟩ := mem_renderWith hs
  have hpath : s.path = en.path := by rw [hse]; rfl
  -- the name starts with the PascalCase form of the `j`-th path element
  have hcap : CapStart s.name :=
    hname ▸ pascalPath_capStart hj (hnames en hen _ (hpath ▸ List.getElem_mem _)) digits
  exact legalTypeIdent_of hcap (C04_struct_name_alnum o t s hs) ((struct_names_spec _ o t ht).2 s hs)

/-- **C04 in one statement, for trees**: if every name of the tree is in C04's domain (`nameOK`), attribute
names are distinct per element and child names are distinct per parent, the rendered program is `WellFormed`:
unique legal struct names that do not shadow `String`/`Option`/`Vec`, unique legal field identifiers, field types
that resolve, every non-root struct used exactly once. -/
theorem C04_wellformed (o : Options) (t : Elem) (ht : t.Inv = true) (hok : TreeOK nameOK t) :
    WellFormed ((renderAST o t).map StructDef.plain) := by
  have hent := entry_conditions nameOK o.sort t ht hok
  refine ⟨?_, List.forall_mem_map.mpr ?_, List.forall_mem_map.mpr ?_, List.forall_mem_map.mpr ?_, C04_used_once o t ht⟩
  · simpa [List.map_map, Function.comp_def, StructDef.plain] using C04_structs_unique o t ht
  · exact C04_structs_legal o t ht fun en hen x hx => nameOK_letterFirst ((hent en hen).2 x hx)
  · intro s hs
    obtain ⟨en, hen, rfl⟩ := mem_renderWith hs
    have he := (hent en hen).1
    constructor
    · simpa [StructDef.plain, List.map_map, Function.comp_def, Field.plain] using
        C04_fields_unique o _ _ en he.attrs_nodup he.kids_nodup
    · exact List.forall_mem_map.mpr (fields_legal o _ _ en (he.mono C04_nameOK_letterFirst))
  · intro s hs
    refine List.forall_mem_map.mpr fun f hf => (C04_types_resolve o t s hs f hf).imp_right fun ⟨s', hs', hn⟩ => ?_
    exact List.mem_map.mpr ⟨s'.plain, List.mem_map_of_mem hs', hn⟩

/-- the rendered *text* is a sequence of struct items in the renderer's format: reading it back with the reader
the correspondence check uses on the implementation's output gives exactly the rendered structs — for option strings
without line breaks (`ho`) and names in C04's domain, distinct per element (`hen`); under these conditions the statements
above, which are about the AST, are statements about the text -/
theorem C04_text_reads_back (o : Options) (t : Elem)
    (ho : NoNL o.derive ∧ NoNL o.attrPrefix ∧ NoNL o.textIdent)
    (hen : ∀ en ∈ walk o.sort [] [] t, nameOK en.elem.name = true ∧ (∀ a ∈ en.elem.attrs, nameOK a.2 = true) ∧
      (∀ c ∈ en.elem.children, nameOK c.2.name = true) ∧ (names en.elem.attrs).Nodup ∧ (childNames en.elem.children).Nodup) :
    readProgram (toSerdeStruct o t) = some ((renderAST o t).map StructDef.plain) := by
  apply readProgram_printAST
  intro s hs
  obtain ⟨en, henw, rfl⟩ := mem_renderWith hs
  refine structOf_printable o _ _ en ho (let ⟨h1, h2, h3, h4, h5⟩ := hen en henw; ⟨h1, h2, h3, h4, h5⟩)
    (C04_struct_name_alnum o t _ hs) fun f hf => ?_
  -- the type of a field is `String` or the name of a struct
  rcases C04_types_resolve o t _ hs f hf with hb | ⟨s', hs', hb⟩
  · rw [hb]; decide
  · rw [← hb]; exact C04_struct_name_alnum o t s' hs'

/-- **C04 for histories**: for every history of well-formed documents with a common root whose names are all in
C04's domain, and every option record whose strings hold no line break, the text rendered from the parsed tree reads back
as a `WellFormed` program. -/
theorem C04_history (o : Options) (ho : NoNL o.derive ∧ NoNL o.attrPrefix ∧ NoNL o.textIdent)
    (H : List Doc) (h : historyOk H) (hn : ∀ d ∈ H, d.root.allNames nameOK = true) :
    ∃ t p, parseHistory (H.map Doc.events) = .ok t ∧ readProgram (toSerdeStruct o t) = some p ∧ WellFormed p := by
  obtain ⟨t, ht, hm, htree⟩ := parse_treeOK nameOK H h hn
  have hinv := hm.inv
  refine ⟨t, (renderAST o t).map StructDef.plain, ht, ?_, C04_wellformed o t hinv htree⟩
  apply C04_text_reads_back o t ho
  intro en hen
  have he := (entry_conditions nameOK o.sort t hinv htree en hen).1
  exact ⟨he.name, he.attrs, he.kids, he.attrs_nodup, he.kids_nodup⟩

/-- the suffix loops of `create_unused_name` and of `compute_struct_names` terminate after at most
`used.length + 1` increments and return a name that is not in use -/
theorem C04_while_terminates (used : List Name) (base : Name) (h : used.contains base = true) :
    (∃ i, i < used.length + 1 ∧ firstFree used base (fun i => base ++ dec i) = base ++ dec (i + 1) ∧ base ++ dec (i + 1) ∉ used) ∧
    (∃ i, i < used.length + 1 ∧ firstFree used base (fun i => base ++ ['_'] ++ dec i) = base ++ ['_'] ++ dec (i + 1) ∧
      base ++ ['_'] ++ dec (i + 1) ∉ used) := by
  have hb := List.contains_iff_mem.mp h
  obtain ⟨i, h1, h2, h3, -⟩ := firstFree_of_mem hb _ (append_dec_injective base)
  obtain ⟨j, g1, g2, g3, -⟩ := firstFree_of_mem hb _ (append_dec_injective (base ++ ['_']))
  exact ⟨⟨i, h1, h2, h3⟩, ⟨j, g1, g2, g3⟩⟩

/-- the pinned tree (before fix F4) used the bare expansion as the name: that is `Self` for `<self a="1"/>`; and the
PascalCase forms that the expansion is built from send `string` to `String` and `Foo`, `foo` to one name -/
theorem C04_prefix_negative :
    expandName (hintOf (fillNames [] (Elem.new (cl!"self") [cl!"a"]))) [pascal (cl!"self")] (Elem.new (cl!"self") [cl!"a"]) = cl!"Self" ∧
    pascal (cl!"string") = cl!"String" ∧ pascal (cl!"Foo") = pascal (cl!"foo") := by decide +kernel

/-- non-vacuity: the D4 witnesses after the fix -/
example : ((renderAST Options.quickXmlDe
    (.mk (cl!"r") false true 1 [] [(.man, Elem.new (cl!"Foo") [cl!"a"]), (.man, Elem.new (cl!"foo") [cl!"a"])] none)).map (·.name))
    = [cl!"R", cl!"RFoo", cl!"RFoo1"] := by decide +kernel

end Xsg
