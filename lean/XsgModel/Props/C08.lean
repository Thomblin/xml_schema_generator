import XsgModel.Proofs.Faults
import XsgModel.Proofs.Carried
/-!
# C08 — errors are reported faithfully and only when the input is at fault

`firstFault` is the independent pass: a flat scan of the reader's events with a depth counter that never
builds a tree.  The theorems say that `into_struct` / `extend_struct` (as modelled by the stack machine)
fail exactly with that fault, carry the reader's error and position, and succeed otherwise, except that `into_struct`
fails with "no root" exactly when no element occurs (an element-less input to `extend_struct` is Ok) — for every event stream.
-/
namespace Xsg

/-- `into_struct`: the result is an error iff there is a first fault (and then it is that fault), or there is
no fault and no element (and then it is the no-root error) -/
theorem C08_init (evs : List Ev) :
    errOf (intoStruct evs) = expectedInit evs := by
  rw [intoStruct, errOf_buildFrom, expectedInit]
  cases firstFault 0 evs <;> simp [wrapper0, Elem.new, Elem.children]

/-- `extend_struct`: the result is an error iff there is a first fault, and then it is that fault
(an element-less input is *not* an error) -/
theorem C08_extend (root : Elem) (evs : List Ev) :
    errOf (extendStruct root evs) = firstFault 0 evs := by
  have : (wrapper0.setChildren (addUniqueChild wrapper0.children root)).children ≠ [] := addUniqueChild_ne_nil [] root
  rw [extendStruct, errOf_buildFrom, if_pos (Or.inl this)]
  cases firstFault 0 evs <;> rfl

/-- a reader fault is reported with the reader's byte position and error text -/
theorem C08_payload (evs : List Ev) (e : PErr) (h : errOf (intoStruct evs) = some e) :
    e = .noRoot ∨ (∃ m, e = .utf8 m) ∨ (∃ m, e = .attr m) ∨
      (∃ p m, e = .quickXml p m ∧ Ev.err p m ∈ evs ∧ e.display = cl!"Error at position " ++ dec p ++ cl!" : " ++ m) := by
  rw [C08_init, expectedInit] at h
  cases hf : firstFault 0 evs with
  | none => rw [hf] at h; dsimp only at h; split at h <;> cases h; exact Or.inl rfl
  | some e' =>
    rw [hf] at h; cases h
    obtain ⟨ev, hev, hact⟩ := firstFault_mem hf
    rcases act_fault hact with h | h | ⟨p, m, rfl, rfl⟩
    · exact Or.inr (Or.inl h)
    · exact Or.inr (Or.inr (Or.inl h))
    · exact Or.inr (Or.inr (Or.inr ⟨p, m, rfl, hev, rfl⟩))

/-- comments, processing instructions, the XML declaration and the DOCTYPE never change the verdict:
inserting an ignored event anywhere changes neither the fault nor the no-root decision -/
theorem C08_ignored (pre post : List Ev) (d : Nat) :
    firstFault d (pre ++ .ignored :: post) = firstFault d (pre ++ post) ∧
    hasElement d (pre ++ .ignored :: post) = hasElement d (pre ++ post) := by
  induction pre generalizing d with
  | nil => exact ⟨rfl, rfl⟩
  | cons ev pre ih =>
    simp only [List.cons_append, firstFault_cons, hasElement_cons]
    cases ev.act <;> simp [ih]

/-- on every input without fault that contains an element, `into_struct` returns `Ok` -/
theorem C08_ok (evs : List Ev) (h1 : firstFault 0 evs = none) (h2 : hasElement 0 evs = true) :
    ∃ t, intoStruct evs = .ok t := by
  have := C08_init evs
  simp only [expectedInit, h1, h2, if_true] at this
  cases h : intoStruct evs with
  | ok t => exact ⟨t, rfl⟩
  | error e => rw [h] at this; simp [errOf] at this

/-- non-vacuity: a stream with an attribute fault, and a fault-free stream with an element and surrounding misc -/
example : firstFault 0 [.ignored, .start (.ok (cl!"a")) [.bad (cl!"dup")], .eof] = some (.attr (cl!"dup")) := by decide +kernel
example : firstFault 0 [.ignored, .start (.ok (cl!"a")) [], .text (.ok []), .endTag, .ignored, .eof] = none ∧
    hasElement 0 [.ignored, .start (.ok (cl!"a")) [], .text (.ok []), .endTag, .ignored, .eof] = true := by decide +kernel

/-- the text the correspondence check compares for "the error carries the reader's error and byte position"
(`ER <display> <carried>`, read off the public enum by the harness) determines the error value: variant, position
and inner error -/
theorem C08_carried_determines (e e' : PErr) : e.carried = e'.carried ↔ e = e' :=
  ⟨PErr.carried_injective e e', fun h => by rw [h]⟩

end Xsg
