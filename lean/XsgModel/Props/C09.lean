import XsgModel.Proofs.Sort
import XsgModel.Proofs.FirstAppearance
import XsgModel.Props.C03
/-!
# C09 — field order follows the document, or the XML name when sorting is requested

Renderer level (all trees, all options): every struct lists attribute fields, then the text field, then
child fields; unsorted, attributes keep the stored order and children are ordered by `position`; sorted,
both groups are ordered by XML name (code-point order); switching the option permutes the fields of each
group of one struct and leaves its name and path alone (`C09_only_order`, for one entry and given name tables).
Parser level: the stored attribute order is the order of first appearance over all occurrences
(`C09_attr_first_appearance`, from the central theorem); a new child gets the next free position and a re-seen
child keeps its position (`C09_position_*`).
-/
namespace Xsg

/-- attributes, then text, then children -/
theorem C09_groups (o : Options) (H : Name → Option Nat) (names' : List (List Name × Name)) (en : Entry) :
    ∃ as ts cs, (structOf o H names' en).fields = as ++ ts ++ cs ∧
      (∀ f ∈ as, f.kind = .attr) ∧ (∀ f ∈ ts, f.kind = .text) ∧ (∀ f ∈ cs, f.kind = .child) ∧
      as.map (·.xml) = (sortedAttrs o en.elem).map (·.2) ∧
      ts.length = (if en.elem.text then 1 else 0) ∧
      cs.map (·.xml) = (sortedChildren o en.elem).map (·.2.name) := by
  refine ⟨_, _, _, rfl, ?_, ?_, ?_, ?_, ?_, ?_⟩
  · intro f hf; simp only [List.mem_map] at hf; obtain ⟨a, _, rfl⟩ := hf; rfl
  · intro f hf; split at hf
    · simp only [List.mem_singleton] at hf; subst hf; rfl
    · cases hf
  · intro f hf; simp only [List.mem_map] at hf; obtain ⟨a, _, rfl⟩ := hf; rfl
  · simp [List.map_map, Function.comp_def, attrField]
  · split <;> rfl
  · simp [List.map_map, Function.comp_def, childField]

/-- unsorted: attributes in stored order (= first appearance, see below) -/
theorem C09_unsorted_attrs (o : Options) (e : Elem) (h : o.sort = .unsorted) : sortedAttrs o e = e.attrs := by
  simp [sortedAttrs, h]

/-- unsorted: children by position (`None` first, then increasing) -/
theorem C09_unsorted_children (o : Options) (e : Elem) (h : o.sort = .unsorted) :
    (sortedChildren o e).Pairwise (fun a b => (SortKey.pos a.2.position).le (SortKey.pos b.2.position) = true) := by
  have := sorted_sortOn (fun c : Nec × Elem => sortKeyOf o.sort c.2) e.children
  simpa [sortedChildren, h, sortKeyOf] using this

theorem C09_sorted_attrs (o : Options) (e : Elem) (h : o.sort = .xmlName) :
    (sortedAttrs o e).Pairwise (fun a b => nameLe a.2 b.2 = true) := by
  have := sorted_sortOn (fun a : Nec × Name => SortKey.name a.2) e.attrs
  simpa [sortedAttrs, h, SortKey.le] using this

theorem C09_sorted_children (o : Options) (e : Elem) (h : o.sort = .xmlName) :
    (sortedChildren o e).Pairwise (fun a b => nameLe a.2.name b.2.name = true) := by
  have := sorted_sortOn (fun c : Nec × Elem => sortKeyOf o.sort c.2) e.children
  simpa [sortedChildren, h, sortKeyOf, SortKey.le] using this

/-- both orders list exactly the stored attributes / children (nothing dropped, nothing added) -/
theorem C09_perm (o : Options) (e : Elem) : (sortedAttrs o e).Perm e.attrs ∧ (sortedChildren o e).Perm e.children :=
  ⟨perm_sortedAttrs o e, perm_sortedChildren o e⟩

/-- switching the option changes nothing but these orders: for the same element the fields under the two
options are permutations of each other (same identifiers, renames and types), and name, derive and path of
the struct are equal -/
theorem C09_only_order (o : Options) (s₁ s₂ : SortBy) (H : Name → Option Nat) (names' : List (List Name × Name)) (en : Entry) :
    let a := structOf { o with sort := s₁ } H names' en
    let b := structOf { o with sort := s₂ } H names' en
    a.name = b.name ∧ a.derive = b.derive ∧ a.path = b.path ∧ a.fields.Perm b.fields := by
  refine ⟨rfl, rfl, rfl, ?_⟩
  simp only [structOf]
  have h1 := (C09_perm { o with sort := s₁ } en.elem)
  have h2 := (C09_perm { o with sort := s₂ } en.elem)
  have ha : (sortedAttrs { o with sort := s₁ } en.elem).Perm (sortedAttrs { o with sort := s₂ } en.elem) := h1.1.trans h2.1.symm
  have hc : (sortedChildren { o with sort := s₁ } en.elem).Perm (sortedChildren { o with sort := s₂ } en.elem) := h1.2.trans h2.2.symm
  exact ((ha.map _).append (List.Perm.refl _)).append (hc.map _)

/-- struct names are assigned before and independently of `Options::sort` -/
theorem C09_names_independent (H : Name → Option Nat) (root : Elem) (o₁ o₂ : Options) :
    (fun (_ : Options) => structNames H root) o₁ = (fun (_ : Options) => structNames H root) o₂ := rfl

/-- struct definitions follow a pre-order walk: the struct of an element, then the structs of its (sorted,
struct-typed) children, each with its whole subtree -/
theorem C09_preorder (s : SortBy) (path trace : List Name) (e : Elem) :
    walk s path trace e = ⟨path ++ [e.name], trace ++ [pascal e.name], e⟩ ::
      ((sortKeyed (walk.walkKids s (path ++ [e.name]) (trace ++ [pascal e.name]) e.children)).flatMap (·.2)) ∧
    (sortKeyed (walk.walkKids s (path ++ [e.name]) (trace ++ [pascal e.name]) e.children)).Pairwise (fun a b => a.1.le b.1 = true) := by
  refine ⟨?_, sorted_sortKeyed _⟩
  cases e; rfl

/-- parser level: the stored attribute order of the root and of each of its children is the order of first appearance
over all its occurrences in the supplied documents (first document first); deeper positions by `Matches.child` -/
theorem C09_attr_first_appearance (d : Doc) (ds : List Doc) (h : historyOk (d :: ds)) :
    ∃ t, parseHistory ((d :: ds).map Doc.events) = .ok t ∧
      names t.attrs = dedupNames (((d :: ds).map (·.root)).flatMap Node.attrs) ∧
      ∀ k nec c, getChild t.children k = some (nec, c) →
        names c.attrs = dedupNames ((((d :: ds).map (·.root)).flatMap (Node.named k)).flatMap Node.attrs) := by
  obtain ⟨t, ht, hm⟩ := C03_exact d ds h
  exact ⟨t, ht, hm.attrs, fun k nec c hc => (hm.child k nec c hc).attrs⟩

/-- parser level, children: at every position of the tree the child named by the `i`-th entry of the
first-appearance order of its occurrences (`orderOf`: stream order over all documents, first document first)
is stored with `position = i` -/
theorem C09_child_positions {t : Elem} {occs : List Node} (h : Matches t occs) :
    ∀ i k, (orderOf occs)[i]? = some k → ∃ nec c, getChild t.children k = some (nec, c) ∧ c.position = some i := h.position

/-- hence, with the default unsorted option, the child fields of every struct are in order of first appearance -/
theorem C09_children_first_appearance {t : Elem} {occs : List Node} (h : Matches t occs) (o : Options) (ho : o.sort = .unsorted) :
    (sortedChildren o t).map (·.2.name) = orderOf occs :=
  sorted_children_names t (orderOf occs) h.nodup h.posInv o ho

/-- the whole statement for histories: after `into_struct` + `extend_struct`s the root (and by `C03_nested` every
nested position) lists attributes and children in order of first appearance in the supplied documents -/
theorem C09_first_appearance (d : Doc) (ds : List Doc) (h : historyOk (d :: ds)) (o : Options) (ho : o.sort = .unsorted) :
    ∃ t, parseHistory ((d :: ds).map Doc.events) = .ok t ∧
      (sortedAttrs o t).map (·.2) = dedupNames (((d :: ds).map (·.root)).flatMap Node.attrs) ∧
      (sortedChildren o t).map (·.2.name) = orderOf ((d :: ds).map (·.root)) ∧
      ∀ k nec c, getChild t.children k = some (nec, c) →
        (sortedAttrs o c).map (·.2) = dedupNames ((((d :: ds).map (·.root)).flatMap (Node.named k)).flatMap Node.attrs) ∧
        (sortedChildren o c).map (·.2.name) = orderOf (((d :: ds).map (·.root)).flatMap (Node.named k)) := by
  obtain ⟨t, ht, hm⟩ := C03_exact d ds h
  refine ⟨t, ht, ?_, C09_children_first_appearance hm o ho, ?_⟩
  · rw [C09_unsorted_attrs o t ho]; exact hm.attrs
  · intro k nec c hc
    have hsub := hm.child k nec c hc
    exact ⟨by rw [C09_unsorted_attrs o c ho]; exact hsub.attrs, C09_children_first_appearance hsub o ho⟩

/-- parser level: a child that is new under its parent and carries no position gets the next free one (= number
of children stored so far); one that carries a position already (`C09_position_kept`) keeps it -/
theorem C09_position_new (cs : List (Nec × Elem)) (c : Elem) (h : getChild cs c.name = none) (hp : c.position = none) :
    ∃ c', getChild (addUniqueChild cs c) c.name = some (.man, c') ∧ c'.position = some cs.length :=
  ⟨_, getChild_addUniqueChild_self h, by rw [position_withPosition, hp]; rfl⟩

theorem C09_position_kept (cs : List (Nec × Elem)) (c : Elem) (p : Nat) (h : getChild cs c.name = none) (hp : c.position = some p) :
    ∃ c', getChild (addUniqueChild cs c) c.name = some (.man, c') ∧ c'.position = some p :=
  ⟨_, getChild_addUniqueChild_self h, by rw [position_withPosition, hp]; rfl⟩

/-- the pinned tree (before fix F1): two attributes first seen in a later occurrence were stored in reverse order -/
theorem C09_prefix_negative :
    names (mergeNecPinned [(Nec.man, cl!"x")] [(Nec.man, cl!"x"), (Nec.man, cl!"y"), (Nec.man, cl!"z")]) = [cl!"x", cl!"z", cl!"y"] := by
  decide +kernel

/-- non-vacuity: sorting really changes the order on some tree -/
example : (sortedAttrs { Options.quickXmlDe with sort := .xmlName } (Elem.new (cl!"r") [cl!"b", cl!"a"])).map (·.2) = [cl!"a", cl!"b"] ∧
    (sortedAttrs Options.quickXmlDe (Elem.new (cl!"r") [cl!"b", cl!"a"])).map (·.2) = [cl!"b", cl!"a"] := by decide +kernel

end Xsg
