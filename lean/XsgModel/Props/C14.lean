import XsgModel.Proofs.Hints
import XsgModel.Proofs.StructNames
/-!
# C14 — struct names are readable: own name, qualified by ancestors only when needed

For every element tree (parsed or hand-built) and every option record: every struct name consists of the
PascalCase names of its nearest ancestors in nesting order, then the PascalCase form of its own element's
name, then possibly a decimal suffix (fix F4); the first struct is the root's; an element whose PascalCase
name occurs at a single position of the whole tree gets that name without ancestor qualification; the suffix
is empty unless the unsuffixed name is reserved or the name of another struct (`C14_suffix_needed`).
-/
namespace Xsg

/-- shape, for any hint lookup: a suffix of the PascalCase path, joined, plus digits -/
theorem C14_shape_any (H : Name → Option Nat) (o : Options) (t : Elem) :
    ∀ s ∈ renderWith H o t, ∃ j digits, s.name = ((s.path.map pascal).drop j).flatten ++ digits ∧ digits.all isDigit = true := by
  intro s hs
  obtain ⟨en, hen, rfl⟩ := mem_renderWith hs
  obtain ⟨en', hen', hp, digits, hd, he⟩ := structNameOf_eq H t o.sort en hen
  obtain ⟨j, hj⟩ := expandName_shape H (en.path.map pascal) en'.elem
  exact ⟨j, digits, by simp only [structOf]; rw [he, hj], hd⟩

/-- shape of the names `to_serde_struct` produces: at least the element's own name is part of it
(`j < path length`), preceded only by its nearest ancestors, followed only by digits -/
theorem C14_shape (o : Options) (t : Elem) :
    ∀ s ∈ renderAST o t, ∃ j digits, j < s.path.length ∧
      s.name = ((s.path.map pascal).drop j).flatten ++ digits ∧ digits.all isDigit = true := by
  intro s hs
  obtain ⟨en, hen, rfl⟩ := mem_renderWith hs
  obtain ⟨en', hen', hp, digits, hd, he⟩ := structNameOf_eq _ t o.sort en hen
  obtain ⟨n, hn, hpos⟩ := hint_of_entry .unsorted t en' hen'
  have hne : en.path.map pascal ≠ [] := by
    have := walk_path_getLast o.sort t [] [] en hen
    intro e; rw [List.map_eq_nil_iff.mp e] at this; cases this
  obtain ⟨j, hj, hexp⟩ := expandName_own _ (en.path.map pascal) en'.elem n hn hpos hne
  refine ⟨j, digits, ?_, ?_, hd⟩
  · simpa [structOf] using hj
  · simp only [structOf]; rw [he, hexp]

/-- the first struct is the root element's, named by the root's own PascalCase name plus, possibly, digits (none unless that
name is reserved, e.g. `Self1`: `C14_suffix_only_on_clash`) -/
theorem C14_first (o : Options) (t : Elem) :
    ∃ s rest, renderAST o t = s :: rest ∧ s.path = [t.name] ∧ ∃ digits, s.name = pascal t.name ++ digits ∧ digits.all isDigit = true := by
  have hr : renderAST o t = _ :: _ :=
    (congrArg (List.map (structOf o (hintOf (fillNames [] t)) (structNames (hintOf (fillNames [] t)) t)))
      (walk_cons o.sort [] [] t)).trans (List.map_cons ..)
  refine ⟨_, _, hr, rfl, ?_⟩
  obtain ⟨j, digits, hj, hname, hd⟩ := C14_shape o t _ (hr ▸ List.mem_cons_self)
  have hj0 : j = 0 := Nat.lt_one_iff.mp hj
  subst hj0
  exact ⟨digits, by simpa [structOf] using hname, hd⟩

/-- an element whose PascalCase name occurs at a single position of the whole tree is not qualified by ancestors -/
theorem C14_unique_unqualified (o : Options) (t : Elem) (en : Entry) (hen : en ∈ walk o.sort [] [] t)
    (huniq : ∃ tr, traceGroup (fillNames [] t) (pascal en.elem.name) = [tr])
    (hsame : ∀ en' ∈ walk .unsorted [] [] t, en'.path = en.path → en'.elem.name = en.elem.name) :
    ∃ digits, (structOf o (hintOf (fillNames [] t)) (structNames (hintOf (fillNames [] t)) t) en).name = pascal en.elem.name ++ digits ∧
      digits.all isDigit = true := by
  obtain ⟨tr, huniq⟩ := huniq
  obtain ⟨en', hen', hp, digits, hd, he⟩ := structNameOf_eq (hintOf (fillNames [] t)) t o.sort en hen
  refine ⟨digits, ?_, hd⟩
  -- with hint 1 the expanded name is the last trace item, the PascalCase form of the last path item
  obtain ⟨pre, hpre⟩ := List.getLast?_eq_some_iff.mp (walk_path_getLast o.sort t [] [] en hen)
  simp only [structOf, he]
  simp only [expandName, hsame en' hen' hp, hintOf_single _ _ _ huniq, hpre]
  simp

/-- the struct at the head of a naming pass gets its plain name whenever that name is not in use (for every struct of
the table: `C14_suffix_needed`) -/
theorem C14_plain_if_free (H : Name → Option Nat) (en : Entry) (rest : List Entry) (used : List Name)
    (h : expandName H en.trace en.elem ∉ used) :
    (assignNames H (en :: rest) used).head? = some (en.path, expandName H en.trace en.elem) := by
  simp [assignNames, firstFree, h]

/-- in particular the first struct of `compute_struct_names` keeps its plain name whenever that name is not reserved -/
theorem C14_suffix_only_on_clash (H : Name → Option Nat) (en : Entry) (rest : List Entry)
    (h : expandName H en.trace en.elem ∉ reservedStructNames) :
    (assignNames H (en :: rest) reservedStructNames).head? = some (en.path, expandName H en.trace en.elem) :=
  C14_plain_if_free H en rest _ h

/-- over the whole naming table of a tree: a numbered name occurs only where the plain name is reserved or is the
name given to another struct -/
theorem C14_suffix_needed (H : Name → Option Nat) (t : Elem) :
    ∀ p ∈ structNames H t, ∃ en ∈ walk .unsorted [] [] t, p.1 = en.path ∧
      (p.2 = expandName H en.trace en.elem ∨
        ((∃ i, 1 ≤ i ∧ p.2 = expandName H en.trace en.elem ++ dec i) ∧
          (expandName H en.trace en.elem ∈ reservedStructNames ∨ expandName H en.trace en.elem ∈ (structNames H t).map (·.2)))) :=
  assignNames_suffix_needed H _ _

/-- ancestors qualify a name only when needed: if the hint of a PascalCase name is `n` (own name + `n - 1`
ancestors), then no smaller number `i` of trace items (up to the length of the shortest trace) separates all
positions of that name -/
theorem C14_minimal (all : List (Name × List Name)) (k : Name) (n : Nat) (h : hintOf all k = some n) :
    ∀ i, 1 ≤ i → i < n → i ≤ ((traceGroup all k).map List.length).min?.getD 0 →
      ¬ ((traceGroup all k).map (traceBuffer i)).Nodup := by
  intro i hi1 hin himin
  unfold hintOf at h
  split at h
  · cases h
  · exact absurd (Option.some.inj h ▸ hin) (Nat.not_lt.mpr hi1)
  · exact minimalDifferentLengths_least _ i hi1 (Option.some.inj h ▸ hin) himin

/-- non-vacuity / witness of D4 after the fix: `<self a="1"/>` is named `Self1` (the `Foo`/`foo` siblings are in `Props/C04.lean`) -/
example : (renderAST Options.quickXmlDe (Elem.new (cl!"self") [cl!"a"])).map (·.name) = [cl!"Self1"] := by decide +kernel

end Xsg
