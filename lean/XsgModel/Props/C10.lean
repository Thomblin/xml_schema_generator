import XsgModel.Model.Render
import XsgModel.Model.RustSyntax
/-!
# C10 — options change exactly what they name and nothing else

All statements are for every element tree, every hint lookup and every option record.
-/
namespace Xsg

/-- the part of a field that must not depend on derive / prefix / text identifier / preset -/
def Field.skeleton (f : Field) : FKind × Name × Name × Bool × Bool × Name := (f.kind, f.xml, f.ident, f.opt, f.vec, f.base)

def StructDef.skeleton (s : StructDef) : Name × List Name × List (FKind × Name × Name × Bool × Bool × Name) :=
  (s.name, s.path, s.fields.map Field.skeleton)

/-- the derive string is reproduced verbatim on every struct, and no derive attribute exists when it is empty -/
theorem C10_derive (o : Options) (hints : Name → Option Nat) (t : Elem) :
    ∀ s ∈ renderWith hints o t, s.derive = if o.derive = [] then none else some o.derive := by
  intro s hs
  simp only [renderWith, List.mem_map] at hs
  obtain ⟨en, _, rfl⟩ := hs
  simp only [structOf]
  cases h : o.derive <;> simp

/-- the `#[derive(..)]` line is printed iff the attribute is present, with the string unchanged -/
theorem C10_print (s : StructDef) :
    printStruct s = (match s.derive with
      | some d => cl!"#[derive(" ++ d ++ cl!")]\n"
      | none => []) ++ cl!"pub struct " ++ s.name ++ cl!" {\n" ++ (s.fields.map printField).flatten ++ cl!"}\n\n" := rfl

theorem attrField_skeleton (o o' : Options) (im : IdentMap) (a : Nec × Name) :
    (attrField o im a).skeleton = (attrField o' im a).skeleton := rfl

theorem textField_skeleton (o o' : Options) (im : IdentMap) :
    (textField o im).skeleton = (textField o' im).skeleton := rfl

theorem structOf_skeleton (o o' : Options) (h : o.sort = o'.sort) (hints) (names) (en : Entry) :
    (structOf o hints names en).skeleton = (structOf o' hints names en).skeleton := by
  simp only [StructDef.skeleton, structOf, sortedAttrs, sortedChildren, h, List.map_append, List.map_map, Prod.mk.injEq,
    true_and]
  congr 1
  congr 1
  split <;> rfl

/-- neither derive, attribute prefix, text identifier nor the choice of preset alters the set of structs,
their names, fields, identifiers, types or their order: two option records with the same `sort` give
the same skeleton -/
theorem C10_skeleton (o o' : Options) (h : o.sort = o'.sort) (hints : Name → Option Nat) (t : Elem) :
    (renderWith hints o t).map StructDef.skeleton = (renderWith hints o' t).map StructDef.skeleton := by
  simp only [renderWith, List.map_map, h]
  apply List.map_congr_left
  intro en _
  exact structOf_skeleton o o' h hints _ en

/-- the two presets differ only in the attribute prefix -/
theorem C10_presets : Options.serdeXmlRs = { Options.quickXmlDe with attrPrefix := [] } := rfl

/-- an attribute is bound to prefix + local name (full name for `xmlns:*`); a rename is emitted exactly when
that differs from the identifier -/
theorem C10_attr_rename (o : Options) (im : IdentMap) (a : Nec × Name) :
    let f := attrField o im a
    let bound := o.attrPrefix ++ (if startsWithXmlns a.2 then a.2 else removeNamespace a.2)
    f.rename = if f.ident ≠ bound then some bound else none := by
  intro f bound; rfl

/-- a child is bound to its local name; a rename is emitted exactly when that differs from the identifier -/
theorem C10_child_rename (hints names) (im : IdentMap) (path trace : List Name) (c : Nec × Elem) :
    let f := childField hints names im path trace c
    f.rename = if f.ident ≠ removeNamespace c.2.name then some (removeNamespace c.2.name) else none := by
  intro f; rfl

/-- the text field is always bound to the text identifier -/
theorem C10_text_rename (o : Options) (im : IdentMap) : (textField o im).rename = some o.textIdent := rfl

/-- the attribute prefix and the text identifier occur nowhere but in those renames: identifiers and types of
every field are those of any other option record with the same sort (instance of `C10_skeleton` for single fields) -/
theorem C10_only_renames (o o' : Options) (h : o.sort = o'.sort) (hints names) (en : Entry) :
    (structOf o hints names en).fields.map (fun f => (f.ident, f.opt, f.vec, f.base))
      = (structOf o' hints names en).fields.map (fun f => (f.ident, f.opt, f.vec, f.base)) := by
  have := structOf_skeleton o o' h hints names en
  simp only [StructDef.skeleton, Prod.mk.injEq] at this
  have h3 := congrArg (List.map (fun (x : FKind × Name × Name × Bool × Bool × Name) => (x.2.2.1, x.2.2.2.1, x.2.2.2.2.1, x.2.2.2.2.2))) this.2.2
  simpa [List.map_map, Function.comp_def, Field.skeleton] using h3

/-- `Options::derive` replaces the derive string and nothing else -/
theorem C10_withDerive (o : Options) (d : Name) :
    (o.withDerive d).derive = d ∧ (o.withDerive d).sort = o.sort ∧ (o.withDerive d).attrPrefix = o.attrPrefix ∧ (o.withDerive d).textIdent = o.textIdent :=
  ⟨rfl, rfl, rfl, rfl⟩

/-- non-vacuity: an element with an attribute whose identifier equals its bound name under one prefix and not under another -/
example : (attrField { Options.quickXmlDe with attrPrefix := [] } (identMap (Elem.new (cl!"r") [cl!"a"])) (.man, cl!"a")).rename = none ∧
    (attrField Options.quickXmlDe (identMap (Elem.new (cl!"r") [cl!"a"])) (.man, cl!"a")).rename = some (cl!"@a") := by
  decide +kernel

end Xsg
