import XsgModel.Props.C04
import XsgModel.Proofs.OpsNames
/-!
# C16 — hand-built element trees keep unique children

For every sequence of the public construction operations (create, add child, mark child optional, remove
child, look a child up, move a child, merge attribute list, mark as multiple, set text), applied anywhere in the
tree: child names under one parent stay unique (`C16_inv`, `C16_inv_seq`) and the child an operation reports has the
requested name (`C16_result_name`).  For the list operations underneath, on one child list: lookup and removal address the
child with the given name; adding a present name changes nothing; marking optional preserves the child's subtree.
The rendering clause: `C16_render` — every tree built by the operations renders to a program with pairwise
distinct, non-reserved struct names whose field types resolve; `C16_wellformed` — if the operations are handed legal
names, all of `WellFormed`; `C16_fields` — each struct has as many fields as the element has attributes and children,
plus one for text (`C01_fields`, `C01_attr_field`, `C01_child_field`, which say what the fields are, hold for every tree).
-/
namespace Xsg

theorem C16_inv (t : Elem) (op : Op) (h : t.Inv = true) : (applyOp t op).1.Inv = true := Inv_applyOp t op h

/-- every tree reachable from `Element::new` by any finite sequence of operations has unique child names everywhere -/
theorem C16_inv_seq (name : Name) (attrs : List Name) (ops : List Op) :
    (ops.foldl (fun t op => (applyOp t op).1) (Elem.new name attrs)).Inv = true :=
  List.foldlRecOn ops (motive := (·.Inv = true)) _ (Inv_new _ _) fun t h op _ => C16_inv t op h

/-- lookup and removal address the child with the given name: the child found has that name; after removal
that name is gone, every other name is looked up as before, and exactly one child was removed -/
theorem C16_lookup (cs : List (Nec × Elem)) (h : (childNames cs).Nodup) (n : Name) :
    (∀ c, getChild cs n = some c → c.2.name = n) ∧
    getChild (eraseChild cs n) n = none ∧
    (∀ m, m ≠ n → getChild (eraseChild cs n) m = getChild cs m) ∧
    (∀ c, getChild cs n = some c → (eraseChild cs n).length + 1 = cs.length) ∧
    (getChild cs n = none → eraseChild cs n = cs) :=
  ⟨fun _ hc => getChild_some_name hc, getChild_eraseChild_self h, fun _ hm => getChild_eraseChild_ne hm,
   fun _ hc => length_eraseChild hc, eraseChild_of_absent⟩

/-- the result of `remove_child` / `get_child` reported by `applyOp` is the child with the requested name -/
theorem C16_result_name (t : Elem) (path : List Name) (n : Name) (r : Nec × Name)
    (h : (applyOp t (.remove path n)).2 = some r ∨ (applyOp t (.get path n)).2 = some r) : r.2 = n := by
  -- both operations report the same lookup
  have hr : ((elemAt path t).bind fun e => (getChild e.children n).map fun c => (c.1, c.2.name)) = some r := h.elim id id
  obtain ⟨e, -, he⟩ := Option.bind_eq_some_iff.mp hr
  obtain ⟨c, hc, rfl⟩ := Option.map_eq_some_iff.mp he
  exact getChild_some_name hc

/-- adding a name that is already present changes nothing -/
theorem C16_add_present (cs : List (Nec × Elem)) (c : Elem) (h : (getChild cs c.name).isSome) :
    addUniqueChild cs c = cs := addUniqueChild_of_present h

/-- adding an absent name appends exactly that child (with its position filled in, `withPosition`), tagged mandatory -/
theorem C16_add_absent (cs : List (Nec × Elem)) (c : Elem) (h : getChild cs c.name = none) :
    addUniqueChild cs c = cs ++ [(.man, withPosition cs c)] := addUniqueChild_of_absent h

/-- marking optional changes only the tag, as far as lookups by name see: the child's subtree is preserved, the entry of
every other name is untouched, and the set of names is the same (the child moves to the end of the list) -/
theorem C16_optional_subtree (cs : List (Nec × Elem)) (h : (childNames cs).Nodup) (n : Name) :
    (∀ nec c, getChild cs n = some (nec, c) → getChild (setChildOptional cs n) n = some (.opt, c)) ∧
    (∀ m, m ≠ n → getChild (setChildOptional cs n) m = getChild cs m) ∧
    (∀ m, m ∈ childNames (setChildOptional cs n) ↔ m ∈ childNames cs) := by
  refine ⟨?_, ?_, mem_childNames_setChildOptional h⟩
  · intro nec c hc
    rw [getChild_setChildOptional _ _ _ h]; simp [hc, demote]
  · intro m hm
    rw [getChild_setChildOptional _ _ _ h]; simp [hm]

/-- rendering any tree built by the operations yields well-formed output: struct names defined once and not
reserved, every field type `String` or a struct of the same output (C04's theorems apply because of `C16_inv_seq`) -/
theorem C16_render (name : Name) (attrs : List Name) (ops : List Op) (o : Options) :
    let t := ops.foldl (fun t op => (applyOp t op).1) (Elem.new name attrs)
    ((renderAST o t).map (·.name)).Nodup ∧
    (∀ s ∈ renderAST o t, s.name ∉ reservedStructNames) ∧
    (∀ s ∈ renderAST o t, ∀ f ∈ s.fields, f.base = stringTy ∨ ∃ s' ∈ renderAST o t, s'.name = f.base) := by
  intro t
  have hinv : t.Inv = true := C16_inv_seq name attrs ops
  exact ⟨C04_structs_unique o t hinv, (struct_names_spec _ o t hinv).2, C04_types_resolve o t⟩

/-- names stay legal and attribute names distinct along any sequence of operations that are handed legal names and
duplicate-free attribute lists -/
theorem C16_names_seq (p : Name → Bool) (name : Name) (attrs : List Name) (ops : List Op)
    (hn : p name = true) (ha : ∀ a ∈ attrs, p a = true) (hnd : attrs.Nodup) (hops : ∀ op ∈ ops, op.ok p) :
    TreeOK p (ops.foldl (fun t op => (applyOp t op).1) (Elem.new name attrs)) :=
  List.foldlRecOn ops (motive := TreeOK p) _ (TreeOK_new p name attrs hn ha hnd) fun t h op hop => TreeOK_op p t op (hops op hop) h

/-- the rendering clause of C16 in full: a tree built from `Element::new` by any sequence of the public
operations that are given names of C04's domain and duplicate-free attribute lists renders to a `WellFormed`
program (as in C04: unique legal struct names, unique legal field identifiers, resolving types, every non-root
struct used exactly once) -/
theorem C16_wellformed (name : Name) (attrs : List Name) (ops : List Op) (o : Options)
    (hn : nameOK name = true) (ha : ∀ a ∈ attrs, nameOK a = true) (hnd : attrs.Nodup) (hops : ∀ op ∈ ops, op.ok nameOK) :
    WellFormed ((renderAST o (ops.foldl (fun t op => (applyOp t op).1) (Elem.new name attrs))).map StructDef.plain) :=
  C04_wellformed o _ (C16_inv_seq name attrs ops) (C16_names_seq nameOK name attrs ops hn ha hnd hops)

/-- every rendered struct has one field per attribute, one per child and one for text if the element has text,
whatever tree it is (the number only; what the fields are is `C01_fields`) -/
theorem C16_fields (o : Options) (H : Name → Option Nat) (names' : List (List Name × Name)) (en : Entry) :
    (structOf o H names' en).fields.length = en.elem.attrs.length + (if en.elem.text then 1 else 0) + en.elem.children.length := by
  simp only [structOf, List.length_append, List.length_map]
  rw [(perm_sortedAttrs o en.elem).length_eq, (perm_sortedChildren o en.elem).length_eq]; split <;> simp

/-- the pinned tree (before fix F3) broke the invariant: add(x); set_child_optional(x); add(x) -/
theorem C16_prefix_negative :
    ([Op.add [] (cl!"x") [], Op.setOptional [] (cl!"x"), Op.add [] (cl!"x") []].foldl
      (fun t op => (applyOpPinned t op).1) (Elem.new (cl!"r") [])).Inv = false := by decide +kernel

/-- non-vacuity: the same sequence on the repaired model keeps a single child `x`, tagged optional -/
example : (([Op.add [] (cl!"x") [], Op.setOptional [] (cl!"x"), Op.add [] (cl!"x") []].foldl
      (fun t op => (applyOp t op).1) (Elem.new (cl!"r") [])).children.map fun c => (c.1, c.2.name)) = [(.opt, cl!"x")] := by decide +kernel

end Xsg
