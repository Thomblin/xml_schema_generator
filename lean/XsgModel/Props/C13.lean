import XsgModel.Props.C02
import XsgModel.Props.C10
import XsgModel.Proofs.DeserSxr
import XsgModel.Proofs.DeserScope
/-!
# C13 — serde-xml-rs preset: generated code compiles and deserializes its sources  (PARTIAL, known finding K1)

As C02 for the serde-xml-rs preset (no attribute prefix).  The full statement of the property is false for
the pinned dependency: serde-xml-rs 0.6.0 hands character data to the field named `$value`, the preset binds
the text field to `$text` (`C13_text_binding_mismatch`), so the text of an element that is rendered as a
struct is dropped although `from_str` succeeds (known finding K1; `<r><e k="1">hi</e></r>`).  The preset
cannot be changed without editing the pinned test `to_serde_struct_with_text_for_serde_xml_rs`.
What holds: the structural part of C02 for the serde-xml-rs rendering (`C13_partial`: `CompilesStructurally`, every
source document admitted), and, relative to the model of `serde_xml_rs` 0.6.0 (`Model/Deser.lean`, assumed as in
C02), `C13_deserializes` / `C13_holds`: inside the property's scope `from_str` succeeds on every source document
and keeps every attribute value and the character data of every `String`-typed element.  `C13Example.K1_witness`
is K1 as a statement about the model: the character data of an element rendered as a struct is not kept.
-/
namespace Xsg

/-- the name serde-xml-rs 0.6.0 uses for character data (an assumption about the third-party crate, validated
by the compile-and-run correspondence: a struct with a `$value` field receives the text, one with `$text` does not);
the same constant as `DeCfg.serdeXmlRs.textKey` of the deserializer model -/
def sxrTextKey : Name := cl!"$value"

theorem C13_text_binding_mismatch (im : IdentMap) : (textField Options.serdeXmlRs im).rename ≠ some sxrTextKey := by
  simp [textField, Options.serdeXmlRs, sxrTextKey]

theorem C13_partial (H : List Doc) (h : historyOk H) :
    ∃ t, parseHistory (H.map Doc.events) = .ok t ∧
      CompilesStructurally (renderAST Options.serdeXmlRs t) ∧
      (∀ d ∈ H, Admits t d.root) := parsed_compilesStructurally Options.serdeXmlRs H h

/-- the two presets render the same structs, fields, identifiers and types (C10), so everything structural
carries over -/
theorem C13_same_skeleton (t : Elem) :
    (renderAST Options.serdeXmlRs t).map (fun s => (s.name, s.fields.map fun f => (f.ident, f.opt, f.vec, f.base)))
      = (renderAST Options.quickXmlDe t).map (fun s => (s.name, s.fields.map fun f => (f.ident, f.opt, f.vec, f.base))) := by
  simp only [renderAST, renderWith, List.map_map]
  apply List.map_congr_left
  intro en _
  simp only [Function.comp]
  have := C10_only_renames Options.serdeXmlRs Options.quickXmlDe rfl (hintOf (fillNames [] t)) (structNames (hintOf (fillNames [] t)) t) en
  rw [this]
  rfl

/-- attributes are bound to their bare local name -/
theorem C13_attr_binding (im : IdentMap) (a : Nec × Name) :
    ((attrField Options.serdeXmlRs im a).rename.getD (attrField Options.serdeXmlRs im a).ident) = attrLocal a.2 := by
  have := (C01_attr_field Options.serdeXmlRs im a).2.2.2
  simpa [Options.serdeXmlRs] using this

/-- **C13, deserialization** (relative to the deserializer model, which the compile-and-run correspondence ties
to the real crate): for every history of well-formed documents with their values, inside the property's scope
(`sxrOK`: no `:` and no `$` in names, attribute names of a position distinct from its child names; `adjacentOK`: repeated
children adjacent; `inModel`: no mixed content, no `…:nil` attribute, at most one character-data report per element — text
split by a processing instruction is outside, known finding K4), `from_str` into the first rendered struct succeeds on every
source document, and the non-empty strings of the value are exactly what the structs have a place for
(`VNode.kept false`): every attribute value and the character data of every `String`-typed element.  The
character data of an element rendered as a struct is *not* among them: known finding K1. -/
theorem C13_deserializes (H : List VDoc) (h : historyOk (H.map VDoc.erase)) :
    ∃ t, parseHistory ((H.map VDoc.erase).map Doc.events) = .ok t ∧
      (t.sxrOK = true → ∀ d ∈ H, d.root.adjacentOK = true → d.root.inModel DeCfg.serdeXmlRs = true →
        ∃ v, deDoc DeCfg.serdeXmlRs ((renderAST Options.serdeXmlRs t).map StructDef.plain) false d.root = .ok v ∧
          (ne v.strings).Perm (ne (d.root.kept false DeCfg.serdeXmlRs t))) := by
  obtain ⟨t, ht, -, -, hmain⟩ := deDoc_gen scopeSxr H h
  exact ⟨t, ht, fun hk d hd hadj hmodel => hmain hk false (fun h => by cases h) d hd hadj hmodel⟩

/-- **C13 with the scope stated on the documents**: `sxrOK` of the executable schema of the history. -/
theorem C13_holds (H : List VDoc) (h : historyOk (H.map VDoc.erase))
    (hk : (specOfDocs ((H.map VDoc.erase).map (·.root))).sxrOK = true) :
    ∃ t, parseHistory ((H.map VDoc.erase).map Doc.events) = .ok t ∧
      ∀ d ∈ H, d.root.adjacentOK = true → d.root.inModel DeCfg.serdeXmlRs = true →
        ∃ v, deDoc DeCfg.serdeXmlRs ((renderAST Options.serdeXmlRs t).map StructDef.plain) false d.root = .ok v ∧
          (ne v.strings).Perm (ne (d.root.kept false DeCfg.serdeXmlRs t)) := by
  obtain ⟨t, ht, habs, -, hmain⟩ := deDoc_gen scopeSxr H h
  have hkt : t.sxrOK = true := by rw [← abs_sxrOK, habs]; exact hk
  exact ⟨t, ht, fun d hd hadj hmodel => hmain hkt false (fun h => by cases h) d hd hadj hmodel⟩

namespace C13Example
/-- `<r><e k="1">hi</e><f>t</f></r>` -/
def d1 : VDoc := ⟨.nil, .mk (cl!"r") [] false
  (.elem (.mk (cl!"e") [(cl!"k", cl!"1")] false (.text false (cl!"hi") .nil))
  (.elem (.mk (cl!"f") [] false (.text false (cl!"t") .nil)) .nil)), .nil⟩
def H : List VDoc := [d1]

-- the two hypotheses of `C13_holds`
theorem ok : historyOk (H.map VDoc.erase) := by unfold historyOk; decide +kernel
theorem scope : (specOfDocs ((H.map VDoc.erase).map (·.root))).sxrOK = true := by decide +kernel

/-- non-vacuity of `C13_holds` -/
example : ∃ t, parseHistory ((H.map VDoc.erase).map Doc.events) = .ok t ∧
    ∀ d ∈ H, d.root.adjacentOK = true → d.root.inModel DeCfg.serdeXmlRs = true →
      ∃ v, deDoc DeCfg.serdeXmlRs ((renderAST Options.serdeXmlRs t).map StructDef.plain) false d.root = .ok v ∧
        (ne v.strings).Perm (ne (d.root.kept false DeCfg.serdeXmlRs t)) := C13_holds H ok scope

/-- the tree the library builds for this history (evaluated in the kernel) -/
def t : Elem := match parseHistory ((H.map VDoc.erase).map Doc.events) with | .ok t => t | .error _ => default

theorem parsed : parseHistory ((H.map VDoc.erase).map Doc.events) = .ok t := by
  obtain ⟨t', ht', _⟩ := C01_sound _ ok
  unfold t
  rw [ht']

/-- non-vacuity of `C13_deserializes`, and the data of K1: the document is in scope; what the structs have a place for
(`kept false`) is the attribute value and the text of the `String`-typed `f`, not `hi`, the character data of `e`
(rendered as a struct because it has an attribute), which the document holds (`values`).  With `C13_deserializes` and
`parsed` this is what the model's value holds. -/
theorem K1_witness :
    t.sxrOK = true ∧ d1.root.adjacentOK = true ∧ d1.root.inModel DeCfg.serdeXmlRs = true ∧
    d1.root.kept false DeCfg.serdeXmlRs t = [cl!"1", cl!"t"] ∧ d1.root.values DeCfg.serdeXmlRs = [cl!"1", cl!"hi", cl!"t"] := by
  decide +kernel
end C13Example

end Xsg
