import XsgModel.Model.Cli
/-!
# C12 — the command-line program is the library plus a header, and fails cleanly

Statements about `runCli` (the model of `main.rs` 17-58: `run`, and the error path of `main`), for every argument record, every input status
and every output target.
-/
namespace Xsg

/-- `--parser`, `--derive`, `--sort` map to the options `args.rs` says, defaults included -/
theorem C12_options (a : CliArgs) :
    (optionsOf a).derive = a.derive.getD (cl!"Serialize, Deserialize") ∧
    (optionsOf a).sort = a.sort ∧
    (optionsOf a).textIdent = cl!"$text" ∧
    (optionsOf a).attrPrefix = (match a.parser with | .quickXmlDe => cl!"@" | .serdeXmlRs => []) := by
  cases a with
  | mk p d s => cases p <;> exact ⟨rfl, rfl, rfl, rfl⟩

theorem C12_default_options : optionsOf {} = Options.quickXmlDe := rfl

/-- valid input, output to stdout: exit 0, exactly header + the library's rendering + one newline, nothing on stderr, no file -/
theorem C12_ok_stdout (a : CliArgs) (evs : List Ev) (t : Elem) (h : intoStruct evs = .ok t) :
    runCli a (.content evs) .stdout =
      ⟨0, cl!"use serde::{Deserialize, Serialize};\n\n" ++ toSerdeStruct (optionsOf a) t ++ ['\n'], false, none⟩ := by
  simp only [runCli, h]; rfl

/-- valid input, creatable output file: exit 0, the file holds exactly header + rendering, stdout stays empty -/
theorem C12_ok_file (a : CliArgs) (evs : List Ev) (t : Elem) (before : Option Name) (h : intoStruct evs = .ok t) :
    runCli a (.content evs) (.file true before) =
      ⟨0, [], false, some (cl!"use serde::{Deserialize, Serialize};\n\n" ++ toSerdeStruct (optionsOf a) t)⟩ := by
  simp only [runCli, h]; rfl

/-- the input is at fault (missing, unreadable, not UTF-8, rejected by the parser): exit 1, diagnostic on stderr,
nothing on stdout, the named output file neither created nor modified -/
theorem C12_input_fault (a : CliArgs) (input : InputStatus) (out : OutTarget)
    (h : match input with
         | .content evs => ∃ e, intoStruct evs = .error e
         | _ => True) :
    runCli a input out = ⟨1, [], true, outBefore out⟩ := by
  cases input with
  | content evs =>
    obtain ⟨e, he⟩ := h
    simp [runCli, he]
  | _ => rfl

/-- the output cannot be created: exit 1, diagnostic, nothing on stdout (whatever the input) -/
theorem C12_output_fault (a : CliArgs) (input : InputStatus) (before : Option Name) :
    let r := runCli a input (.file false before)
    r.exit = 1 ∧ r.stdout = [] ∧ r.stderrNonEmpty = true ∧ r.fileAfter = before := by
  cases input with
  | content evs =>
    simp only [runCli]
    cases intoStruct evs <;> exact ⟨rfl, rfl, rfl, rfl⟩
  | _ => exact ⟨rfl, rfl, rfl, rfl⟩

/-- the exit status is 0 exactly when the input parses and the output can be written -/
theorem C12_exit (a : CliArgs) (input : InputStatus) (out : OutTarget) :
    (runCli a input out).exit = 0 ↔
      (∃ evs t, input = .content evs ∧ intoStruct evs = .ok t) ∧ (out = .stdout ∨ ∃ b, out = .file true b) := by
  cases input with
  | content evs =>
    simp only [runCli]
    cases h : intoStruct evs with
    | error e => simp [h]
    | ok t =>
      cases out with
      | stdout => simp [h]
      | file c b => cases c <;> simp [h]
  | _ => simp [runCli]

/-- non-vacuity: `<a/>` parses -/
example : ∃ t, intoStruct [.empty (.ok (cl!"a")) [], .eof] = .ok t := ⟨_, rfl⟩

end Xsg
