import XsgModel.Props.C04
import XsgModel.Props.C08
/-!
# C07 — no panic, abort or hang on arbitrary input bytes  (PARTIAL)

What a Lean model can carry: every function of the model is total (Lean only accepts terminating
definitions; the event loop is a fold over the event list), and for each operation that can panic or loop in
Rust the guard is stated and proved.  What it cannot exhibit: panics inside `quick_xml`, allocation failure,
exhaustion of the native stack by the recursion per nesting level — those are searched for by the
correspondence run (byte mutation × reader configurations × buffer capacities under `catch_unwind`).
-/
namespace Xsg

theorem ok_or_error {ε α} (x : Except ε α) : (∃ a, x = .ok a) ∨ ∃ e, x = .error e := by
  cases x with
  | ok a => exact Or.inl ⟨a, rfl⟩
  | error e => exact Or.inr ⟨e, rfl⟩

/-- parsing, extending and rendering are total: every event stream, tree and option record has a result,
which is a tree or one of the four error variants -/
theorem C07_total (evs : List Ev) (t : Elem) (o : Options) :
    ((∃ x, intoStruct evs = .ok x) ∨ ∃ e, intoStruct evs = .error e) ∧
    ((∃ x, extendStruct t evs = .ok x) ∨ ∃ e, extendStruct t evs = .error e) ∧
    ∃ s, toSerdeStruct o t = s :=
  ⟨ok_or_error _, ok_or_error _, ⟨_, rfl⟩⟩

/-- `Vec::remove(index)` is only called with an index returned by `position`: removal drops exactly one child
when the name is present and nothing otherwise -/
theorem C07_remove_in_bounds (cs : List (Nec × Elem)) (n : Name) :
    (∀ c, getChild cs n = some c → (eraseChild cs n).length + 1 = cs.length) ∧ (getChild cs n = none → eraseChild cs n = cs) :=
  ⟨fun _ h => length_eraseChild h, eraseChild_of_absent⟩

/-- `trace[start..]` with `start = len.saturating_sub(n)` is always in bounds -/
theorem C07_trace_slice (trace : List Name) (n : Nat) : trace.length - n ≤ trace.length := Nat.sub_le _ _

/-- what `parse_tag` does to the counter of an element: it grows by exactly one per `Start`/`Empty` event of that
element, a new element starts at 1 (the other steps of the loop do not touch the field, so it can only overflow `u32`
after 2^32 such events) -/
theorem C07_count_step (X : Elem) (known : List Name) (k : Name) (as : List Name) :
    (∀ nec C, getChild X.children k = some (nec, C) → (openChild X known k as).count = C.count + 1) ∧
    (getChild X.children k = none → (openChild X known k as).count = 1) :=
  ⟨fun _ _ h => (openChild_spec h).count, fun h => (openChild_spec h).count⟩

def stackHeight : St → Nat
  | .run stack => stack.length
  | _ => 0

def startCount : List Ev → Nat
  | [] => 0
  | .start _ _ :: r => startCount r + 1
  | _ :: r => startCount r

/-- only a `Start` event that opens an activation is counted here; every other event counts for nothing -/
theorem startCount_cons (ev : Ev) (evs : List Ev) :
    startCount evs + (match ev.act with | .push _ _ => 1 | _ => 0) ≤ startCount (ev :: evs) := by
  cases ev with
  | start nm as => exact Nat.add_le_add_left (by split <;> decide) _
  | empty nm as =>
    -- an `Empty` event never opens an activation
    have : ∀ n ks, (Ev.empty nm as).act ≠ .push n ks := fun n ks h => by
      cases nm with
      | bad m => cases h
      | ok n' => simp only [Ev.act, tagAct] at h; split at h <;> cases h
    split
    · exact absurd ‹_› (this _ _)
    · exact Nat.le_refl _
  | text u | cdata u => cases u <;> exact Nat.le_refl _
  | _ => exact Nat.le_refl _

theorem stackHeight_step (s : St) (ev : Ev) :
    stackHeight (step s ev) ≤ stackHeight s + (match ev.act with | .push _ _ => 1 | _ => 0) := by
  match s with
  | .done _ | .fail _ | .run [] => exact Nat.zero_le _
  | .run (top :: rest) =>
    rw [step_run]
    cases ev.act with
    | pop => cases rest <;> simp [stepAct, stackHeight]
    | _ => simp [stepAct, stackHeight]

/-- the number of nested activations (native recursion depth of `build_struct`) never exceeds the number of
`Start` events read so far plus the initial one -/
theorem C07_depth_bound (evs : List Ev) (s : St) : stackHeight (runEvents s evs) ≤ stackHeight s + startCount evs := by
  induction evs generalizing s with
  | nil => exact Nat.le_refl _
  | cons ev evs ih =>
    have h1 := ih (step s ev)
    have h2 := stackHeight_step s ev
    have h3 := startCount_cons ev evs
    rw [runEvents_cons]
    omega

/-- the `while` loop of `compute_struct_names` terminates (for both suffix loops, and that the result is not in use:
`C04_while_terminates`) -/
theorem C07_while_terminates (used : List Name) (base : Name) (h : used.contains base = true) :
    ∃ i, i < used.length + 1 ∧ firstFree used base (fun i => base ++ dec i) = base ++ dec (i + 1) :=
  let ⟨⟨i, h1, h2, _⟩, _⟩ := C04_while_terminates used base h
  ⟨i, h1, h2⟩

/-- the two `error!` branches of `minimal_different_lengths` are unreachable: every index below the minimal
length exists in every trace -/
theorem C07_unreachable_logs (vecs : List (List Name)) (i : Nat)
    (hi : i < ((vecs.map List.length).min?.getD 0)) : ∀ v ∈ vecs, i < v.length := by
  intro v hv
  cases hm : (vecs.map List.length).min? with
  | none => rw [hm] at hi; simp at hi
  | some m =>
    rw [hm] at hi
    simp only [Option.getD_some] at hi
    rw [List.min?_eq_some_iff] at hm
    have := hm.2 _ (List.mem_map_of_mem hv)
    omega

/-- every failure of the reader, of an attribute or of UTF-8 decoding is a value (`Err`), never a panic: the error
component of the parser's result is the `ParserError` that `expectedInit` names (the statement of `C08_init`) -/
theorem C07_errors_are_values (evs : List Ev) : errOf (intoStruct evs) = expectedInit evs := C08_init evs

end Xsg
