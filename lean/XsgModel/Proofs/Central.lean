import XsgModel.Proofs.Order
/-! the heart of C03: absorbing one more occurrence and demoting yields the schema of `occs ++ [c]` (`merge_matches`) -/
namespace Xsg

/-- what happened to the entry of name `d` while one activation absorbed the occurrences `cs` of `d`; `known` is the
activation's list of names seen (`known_elements`) when the absorption starts. Without an occurrence the entry is as it
was. Otherwise it is mandatory and holds a `D'` with
* `count` grown by the number of occurrences;
* `standalone` only if it was set before (a new child starts with it set), `d` had not been seen in this activation
  (`d ∉ known`) and occurs once here: a second occurrence within one activation is what makes a child multiple;
* for an entry `D` present before: nothing is known about `D` at this point, so the clause speaks of every list `occs`
  that `D` matches (the load of the induction over the tree); for a new entry, `D'` matches the occurrences themselves. -/
def Post (old : Option (Nec × Elem)) (known : List Name) (new : Option (Nec × Elem)) (d : Name) (cs : List Node) : Prop :=
  if cs = [] then new = old
  else ∃ D', new = some (.man, D') ∧
    match old with
    | some (_, D) => (∀ occs, occs ≠ [] → Matches D occs → Matches D' (occs ++ cs)) ∧ D'.count = D.count + cs.length ∧
        D'.standalone = (D.standalone && decide (d ∉ known) && decide (cs.length < 2))
    | none => Matches D' cs ∧ D'.count = cs.length ∧ D'.standalone = (decide (d ∉ known) && decide (cs.length < 2))

theorem Post_nil {old known new d} : Post old known new d [] ↔ new = old := by simp [Post]

theorem Post_cons {old known new d c cs} : Post old known new d (c :: cs) ↔ ∃ D', new = some (.man, D') ∧
    match old with
    | some (_, D) => (∀ occs, occs ≠ [] → Matches D occs → Matches D' (occs ++ c :: cs)) ∧ D'.count = D.count + (cs.length + 1) ∧
        D'.standalone = (D.standalone && decide (d ∉ known) && decide (cs.length + 1 < 2))
    | none => Matches D' (c :: cs) ∧ D'.count = cs.length + 1 ∧ D'.standalone = (decide (d ∉ known) && decide (cs.length + 1 < 2)) := by
  unfold Post; rw [if_neg (List.cons_ne_nil _ _)]; rfl

theorem Post.known_congr {old new : Option (Nec × Elem)} {known known' : List Name} {d cs}
    (hk : d ∈ known' ↔ d ∈ known) (h : Post old known' new d cs) : Post old known new d cs := by
  unfold Post at *; simpa only [hk] using h

/-- two batches of occurrences of `d` absorbed one after the other by one activation. `known'` is the activation's `known`
after the first batch (`hk`); through it a second occurrence within one activation makes the child multiple -/
theorem Post.comp {old mid new : Option (Nec × Elem)} {known known' : List Name} {d : Name} {cs1 cs2 : List Node}
    (hk : d ∈ known' ↔ d ∈ known ∨ cs1 ≠ [])
    (h1 : Post old known mid d cs1) (h2 : Post mid known' new d cs2) : Post old known new d (cs1 ++ cs2) := by
  match cs1, cs2 with
  | [], _ => rw [Post_nil.mp h1] at h2; exact h2.known_congr (hk.trans (or_iff_left fun h => h rfl))
  | c :: cs1, [] => rw [Post_nil.mp h2, List.append_nil]; exact h1
  | c :: cs1, c2 :: cs2 =>
    have hk' : d ∈ known' := hk.mpr (Or.inr (List.cons_ne_nil _ _))
    obtain ⟨M, rfl, hM⟩ := Post_cons.mp h1
    obtain ⟨D', rfl, hD, hc, hs⟩ := Post_cons.mp h2
    rw [List.cons_append]
    refine Post_cons.mpr ⟨D', rfl, ?_⟩
    have hs' : D'.standalone = false := by simpa [hk'] using hs
    -- at least two occurrences in all: the counts add up and `standalone` is lost
    have hlen : (cs1 ++ c2 :: cs2).length + 1 = (cs1.length + 1) + (cs2.length + 1) := by
      rw [List.length_append, List.length_cons]; omega
    have hlt : decide ((cs1 ++ c2 :: cs2).length + 1 < 2) = false := by
      rw [hlen]; exact decide_eq_false (by omega)
    cases old with
    | none =>
      exact ⟨hD (c :: cs1) (List.cons_ne_nil _ _) hM.1, by rw [hc, hM.2.1, hlen], by rw [hs', hlt, Bool.and_false]⟩
    | some o =>
      refine ⟨fun occs ho hm => ?_, by rw [hc, hM.2.1, hlen, Nat.add_assoc], by rw [hs', hlt, Bool.and_false]⟩
      rw [← List.cons_append, ← List.append_assoc]
      exact hD (occs ++ c :: cs1) (List.append_ne_nil_of_right_ne_nil _ (List.cons_ne_nil _ _)) (hM.1 occs ho hm)

/-- the `some` branch of `Post` for `known = []` and at least one occurrence -/
def PostSome (D D' : Elem) (cs : List Node) : Prop :=
  (∀ occs, occs ≠ [] → Matches D occs → Matches D' (occs ++ cs)) ∧ D'.count = D.count + cs.length ∧
    D'.standalone = (D.standalone && decide (cs.length < 2))

/-- the `none` branch of `Post`, likewise -/
def PostNone (D' : Elem) (cs : List Node) : Prop :=
  Matches D' cs ∧ D'.count = cs.length ∧ D'.standalone = decide (cs.length < 2)

/-- one more occurrence `c` of the parent: the entry of `d` rebuilt according to `Post`, and demoted unless `d` was
in every earlier occurrence and is in `c`, describes `occs ++ [c]`. `keep` stands for whichever decidable test the caller
has for "not demoted": the one of `getChild_tagOpt_snapshot` in `merge_matches`, `c.named d ≠ []` in `fresh_matches` -/
theorem KidMatches.absorb {occs : List Node} {c : Node} {d : Name} {old new : Option (Nec × Elem)} {keep : Prop} [Decidable keep]
    (hold : KidMatches occs d old) (hpost : Post old [] new d (c.named d))
    (hkeep : keep ↔ (∀ o ∈ occs, o.named d ≠ []) ∧ c.named d ≠ []) :
    KidMatches (occs ++ [c]) d (if keep then new else demote new) := by
  unfold Post at hpost
  by_cases ecs : c.named d = []
  · have hk : ¬ keep := fun h => (hkeep.mp h).2 ecs
    rw [if_pos ecs] at hpost; subst hpost
    rw [if_neg hk]
    cases new with
    | none => exact forall_mem_snoc.mpr ⟨hold, ecs⟩
    | some p =>
      obtain ⟨h1, h2, h3⟩ := hold
      exact ⟨by simp [ecs], by simpa [exists_mem_snoc, ecs] using h2, by simpa [List.flatMap_append, ecs] using h3⟩
  · rw [if_neg ecs] at hpost
    obtain ⟨D', rfl, hD⟩ := hpost
    have hres : (if keep then some (Nec.man, D') else demote (some (Nec.man, D'))) = some (if keep then .man else .opt, D') := by
      split <;> rfl
    have hnec : (if keep then Nec.man else Nec.opt) = .man ↔ ∀ o ∈ occs ++ [c], o.named d ≠ [] := by
      rw [forall_mem_snoc, ← hkeep]; by_cases hk : keep <;> simp [hk]
    rw [hres]
    refine ⟨hnec, ?_⟩
    rw [List.flatMap_append, exists_mem_snoc]
    cases old with
    | none =>
      obtain ⟨hm, -, hs⟩ := hD
      have : ¬ ∃ o ∈ occs, 2 ≤ (o.named d).length := by rintro ⟨o, ho, h⟩; rw [hold o ho] at h; cases h
      exact ⟨by simp [hs, this], by rw [List.flatMap_eq_nil_iff.mpr hold]; simpa using hm⟩
    | some p =>
      obtain ⟨h1, h2, h3⟩ := hold
      obtain ⟨hm, -, hs⟩ := hD
      exact ⟨by rw [hs, ← h2]; cases p.2.standalone <;> simp, by simpa using hm _ h3.ne_nil h3⟩

/-- the entry of `d` after demotion by the counter snapshot: it keeps its tag iff it was mandatory and has been
counted again; `Post` is used only for "rebuilt as mandatory with a larger counter, or untouched" -/
theorem getChild_tagOpt_snapshot {C C1 : Elem} (hnd : (childNames C.children).Nodup) (hnd1 : (childNames C1.children).Nodup)
    {d : Name} {cs : List Node} (hpost : Post (getChild C.children d) [] (getChild C1.children d) d cs) :
    getChild (tagOpt (snapshot C) C1).children d =
      if (getChild C.children d).any (·.1 = .man) ∧ cs ≠ [] then getChild C1.children d
      else demote (getChild C1.children d) := by
  have hmem := mem_toOptional (snapshot C) C1 d hnd1
  rw [slookup_snapshot C d hnd] at hmem
  rw [getChild_tagOpt _ _ _ hnd1]
  unfold Post at hpost
  by_cases ecs : cs = []
  · rw [if_pos ecs] at hpost
    rw [hpost] at hmem ⊢
    cases hC : getChild C.children d with
    | none => simp [demote]
    | some p =>
      obtain ⟨nec, D⟩ := p
      cases nec with
      | opt => simp [demote]
      | man => rw [if_pos (hmem.mpr ⟨D, hC, by simp [hC]⟩)]; simp [ecs]
  · rw [if_neg ecs] at hpost
    obtain ⟨D', hC1, hD⟩ := hpost
    have := List.length_pos_iff.mpr ecs
    rw [hC1] at hmem ⊢
    cases hC : getChild C.children d with
    | none => rw [if_pos (hmem.mpr ⟨D', rfl, by simp [hC]⟩)]; simp
    | some p =>
      obtain ⟨nec, D⟩ := p
      rw [hC] at hD
      cases nec with
      | opt => rw [if_pos (hmem.mpr ⟨D', rfl, by simp [hC]⟩)]; simp
      | man =>
        -- the snapshot at work: `d` was counted again (`cs ≠ []`), so its counter is above the value the snapshot holds,
        -- and `d` is not among the names to demote
        have : d ∉ toOptional (snapshot C) C1 := by
          rw [hmem, hC]; rintro ⟨D'', h1, h2⟩; cases h1; simp at h2; omega
        simp [this, ecs]

theorem classify (c : Node) (C C1 : Elem) (hnd : (childNames C.children).Nodup) (hnd1 : (childNames C1.children).Nodup)
    (hpost : ∀ d, Post (getChild C.children d) [] (getChild C1.children d) d (c.named d)) (d : Name) :
    let R := (tagOpt (snapshot C) C1).children
    (c.named d = [] ∧ getChild C.children d = none ∧ getChild R d = none) ∨
    (c.named d = [] ∧ ∃ nec D, getChild C.children d = some (nec, D) ∧ getChild R d = some (.opt, D)) ∨
    (c.named d ≠ [] ∧ ∃ D D', getChild C.children d = some (.man, D) ∧ getChild R d = some (.man, D') ∧ PostSome D D' (c.named d)) ∨
    (c.named d ≠ [] ∧ ∃ D D', getChild C.children d = some (.opt, D) ∧ getChild R d = some (.opt, D') ∧ PostSome D D' (c.named d)) ∨
    (c.named d ≠ [] ∧ ∃ D', getChild C.children d = none ∧ getChild R d = some (.opt, D') ∧ PostNone D' (c.named d)) := by
  intro R
  have key : getChild R d = _ := getChild_tagOpt_snapshot hnd hnd1 (hpost d)
  have hp := hpost d
  unfold Post at hp
  by_cases ecs : c.named d = []
  · rw [if_pos ecs] at hp
    rw [hp] at key
    cases hC : getChild C.children d with
    | none => exact .inl ⟨ecs, rfl, by simpa [hC, demote] using key⟩
    | some p => exact .inr (.inl ⟨ecs, p.1, p.2, rfl, by simpa [hC, ecs, demote] using key⟩)
  · rw [if_neg ecs] at hp
    obtain ⟨D', hC1, hD⟩ := hp
    rw [hC1] at key
    cases hC : getChild C.children d with
    | none =>
      rw [hC] at hD
      exact .inr (.inr (.inr (.inr ⟨ecs, D', rfl, by simpa [hC, demote] using key, by simpa [PostNone] using hD⟩)))
    | some p =>
      obtain ⟨nec, D⟩ := p
      rw [hC] at hD
      have hPS : PostSome D D' (c.named d) := by simpa [PostSome] using hD
      cases nec with
      | opt => exact .inr (.inr (.inr (.inl ⟨ecs, D, D', rfl, by simpa [hC, demote] using key, hPS⟩)))
      | man => exact .inr (.inr (.inl ⟨ecs, D, D', rfl, by simpa [hC, ecs] using key, hPS⟩))

theorem AttrsMatch.fresh {c : Node} (hca : c.attrs.Nodup) : AttrsMatch (c.attrs.map fun a => (Nec.man, a)) [c] :=
  ⟨by simp [names_map_tag, dedupNames_of_nodup hca], fun a => by simp⟩

theorem AttrsMatch.merge {as : List (Nec × Name)} {occs : List Node} {c : Node} (h : AttrsMatch as occs) (hca : c.attrs.Nodup) :
    AttrsMatch (mergeNec as (c.attrs.map fun a => (Nec.man, a))) (occs ++ [c]) := by
  have hnm : (names (c.attrs.map fun a => ((Nec.man, a) : Nec × Name))).Nodup := by rw [names_map_tag]; exact hca
  constructor
  · rw [mergeNec_names _ _ hnm, names_map_tag, h.1, List.flatMap_append, dedupNames_append]
    simp [dedupNames_of_nodup hca, mem_dedupNames]
  · intro a; rw [mergeNec_man_iff _ _ hnm, h.2, forall_mem_snoc]; simp

/-- `C` matches `occs`; the items of one more occurrence `c` were absorbed into it, giving `C1` (what the hypotheses from
`hnd1` on say, as `ItemsSpec` delivers them); demoting against the snapshot of `C` then yields the schema of `occs ++ [c]` -/
theorem merge_matches (c : Node) (C C1 : Elem) (occs : List Node) (hocc : occs ≠ [])
    (hm : Matches C occs) (hnd1 : (childNames C1.children).Nodup)
    (hca : c.attrs.Nodup)
    (hattrs1 : C1.attrs = mergeNec C.attrs (c.attrs.map fun a => (Nec.man, a)))
    (htext1 : C1.text = (C.text || c.hasText))
    (hpos1 : PosInv C1.children (marks (orderOf occs) c.items))
    (hpost : ∀ d, Post (getChild C.children d) [] (getChild C1.children d) d (c.named d)) :
    Matches (tagOpt (snapshot C) C1) (occs ++ [c]) := by
  obtain ⟨ht, ha, hnd, -, hk⟩ := matches_iff.mp hm
  refine matches_iff.mpr ⟨by simp [htext1, ht], by simpa [hattrs1] using ha.merge hca, nodup_tagOpt _ _ hnd1,
    by rw [orderOf_append]; exact PosInv_tagOpt _ _ _ hnd1 hpos1, fun k => ?_⟩
  rw [getChild_tagOpt_snapshot hnd hnd1 (hpost k)]
  refine (hk k).absorb (hpost k) (and_congr_left fun _ => ?_)
  -- with at least one earlier occurrence, "mandatory" means "in every occurrence"
  obtain ⟨o, ho⟩ := List.exists_mem_of_ne_nil occs hocc
  have := hk k
  cases hC : getChild C.children k with
  | none => rw [hC] at this; simpa using ⟨o, ho, this o ho⟩
  | some p => rw [hC] at this; simpa using this.1

theorem fresh_matches (c : Node) (C1 : Elem) (hnd1 : (childNames C1.children).Nodup)
    (hca : c.attrs.Nodup)
    (hattrs1 : C1.attrs = c.attrs.map fun a => (Nec.man, a))
    (htext1 : C1.text = c.hasText)
    (hpos1 : PosInv C1.children (marks [] c.items))
    (hpost : ∀ d, Post none [] (getChild C1.children d) d (c.named d)) : Matches C1 [c] := by
  refine matches_iff.mpr ⟨by simp [htext1], hattrs1 ▸ .fresh hca, hnd1, hpos1, fun k => ?_⟩
  have := KidMatches.absorb (occs := []) (keep := c.named k ≠ []) (by simp [KidMatches]) (hpost k) (by simp)
  -- an entry that was not rebuilt is still absent
  have hnil : c.named k = [] → getChild C1.children k = none := fun e => by simpa [Post, e] using hpost k
  by_cases e : c.named k = []
  · simpa [e, hnil e, demote] using this
  · simpa [e] using this

end Xsg
