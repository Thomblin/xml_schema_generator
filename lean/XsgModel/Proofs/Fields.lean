import XsgModel.Model.Element
/-! what each modifier of `Elem` does to each field, as a `simp` set (`Elem` is a nested inductive, so it has no
eta and every one of these needs `cases`) -/
namespace Xsg

@[simp] theorem name_setChildren (e : Elem) (cs) : (e.setChildren cs).name = e.name := by cases e; rfl
@[simp] theorem text_setChildren (e : Elem) (cs) : (e.setChildren cs).text = e.text := by cases e; rfl
@[simp] theorem standalone_setChildren (e : Elem) (cs) : (e.setChildren cs).standalone = e.standalone := by cases e; rfl
@[simp] theorem count_setChildren (e : Elem) (cs) : (e.setChildren cs).count = e.count := by cases e; rfl
@[simp] theorem attrs_setChildren (e : Elem) (cs) : (e.setChildren cs).attrs = e.attrs := by cases e; rfl
@[simp] theorem children_setChildren (e : Elem) (cs) : (e.setChildren cs).children = cs := by cases e; rfl
@[simp] theorem position_setChildren (e : Elem) (cs) : (e.setChildren cs).position = e.position := by cases e; rfl
theorem setChildren_self (e : Elem) : e.setChildren e.children = e := by cases e; rfl
theorem setChildren_setChildren (e : Elem) (a b) : (e.setChildren a).setChildren b = e.setChildren b := by cases e; rfl

@[simp] theorem name_setAttrs (e : Elem) (a) : (e.setAttrs a).name = e.name := by cases e; rfl
@[simp] theorem children_setAttrs (e : Elem) (a) : (e.setAttrs a).children = e.children := by cases e; rfl

@[simp] theorem name_setText (e : Elem) (t) : (e.setText t).name = e.name := by cases e; rfl
@[simp] theorem text_setText (e : Elem) (t) : (e.setText t).text = t := by cases e; rfl
@[simp] theorem standalone_setText (e : Elem) (t) : (e.setText t).standalone = e.standalone := by cases e; rfl
@[simp] theorem count_setText (e : Elem) (t) : (e.setText t).count = e.count := by cases e; rfl
@[simp] theorem attrs_setText (e : Elem) (t) : (e.setText t).attrs = e.attrs := by cases e; rfl
@[simp] theorem children_setText (e : Elem) (t) : (e.setText t).children = e.children := by cases e; rfl
@[simp] theorem position_setText (e : Elem) (t) : (e.setText t).position = e.position := by cases e; rfl
theorem setText_setText (e : Elem) : (e.setText true).setText true = e.setText true := by cases e; rfl

@[simp] theorem name_setPosition (c : Elem) (p) : (c.setPosition p).name = c.name := by cases c; rfl
@[simp] theorem text_setPosition (e : Elem) (p) : (e.setPosition p).text = e.text := by cases e; rfl
@[simp] theorem standalone_setPosition (e : Elem) (p) : (e.setPosition p).standalone = e.standalone := by cases e; rfl
@[simp] theorem count_setPosition (e : Elem) (p) : (e.setPosition p).count = e.count := by cases e; rfl
@[simp] theorem attrs_setPosition (e : Elem) (p) : (e.setPosition p).attrs = e.attrs := by cases e; rfl
@[simp] theorem children_setPosition (e : Elem) (p) : (e.setPosition p).children = e.children := by cases e; rfl

@[simp] theorem name_setMultiple (e : Elem) : e.setMultiple.name = e.name := by cases e; rfl
@[simp] theorem text_setMultiple (e : Elem) : e.setMultiple.text = e.text := by cases e; rfl
@[simp] theorem standalone_setMultiple (e : Elem) : e.setMultiple.standalone = false := by cases e; rfl
@[simp] theorem count_setMultiple (e : Elem) : e.setMultiple.count = e.count := by cases e; rfl
@[simp] theorem attrs_setMultiple (e : Elem) : e.setMultiple.attrs = e.attrs := by cases e; rfl
@[simp] theorem children_setMultiple (e : Elem) : e.setMultiple.children = e.children := by cases e; rfl
@[simp] theorem position_setMultiple (e : Elem) : e.setMultiple.position = e.position := by cases e; rfl

@[simp] theorem name_increment (e : Elem) : e.increment.name = e.name := by cases e; rfl
@[simp] theorem text_increment (e : Elem) : e.increment.text = e.text := by cases e; rfl
@[simp] theorem standalone_increment (e : Elem) : e.increment.standalone = e.standalone := by cases e; rfl
@[simp] theorem count_increment (e : Elem) : e.increment.count = e.count + 1 := by cases e; rfl
@[simp] theorem attrs_increment (e : Elem) : e.increment.attrs = e.attrs := by cases e; rfl
@[simp] theorem children_increment (e : Elem) : e.increment.children = e.children := by cases e; rfl
@[simp] theorem position_increment (e : Elem) : e.increment.position = e.position := by cases e; rfl

@[simp] theorem name_mergeAttr (e : Elem) (l) : (e.mergeAttr l).name = e.name := by simp [Elem.mergeAttr]
@[simp] theorem text_mergeAttr (e : Elem) (l) : (e.mergeAttr l).text = e.text := by cases e; rfl
@[simp] theorem standalone_mergeAttr (e : Elem) (l) : (e.mergeAttr l).standalone = e.standalone := by cases e; rfl
@[simp] theorem count_mergeAttr (e : Elem) (l) : (e.mergeAttr l).count = e.count := by cases e; rfl
@[simp] theorem attrs_mergeAttr (e : Elem) (l) : (e.mergeAttr l).attrs = mergeNec e.attrs l := by cases e; rfl
@[simp] theorem children_mergeAttr (e : Elem) (l) : (e.mergeAttr l).children = e.children := by simp [Elem.mergeAttr]
@[simp] theorem position_mergeAttr (e : Elem) (l) : (e.mergeAttr l).position = e.position := by cases e; rfl

@[simp] theorem name_new (n as) : (Elem.new n as).name = n := rfl
@[simp] theorem text_new (n as) : (Elem.new n as).text = false := rfl
@[simp] theorem standalone_new (n as) : (Elem.new n as).standalone = true := rfl
@[simp] theorem count_new (n as) : (Elem.new n as).count = 1 := rfl
@[simp] theorem attrs_new (n as) : (Elem.new n as).attrs = as.map (fun a => (Nec.man, a)) := rfl
@[simp] theorem children_new (n as) : (Elem.new n as).children = [] := rfl
@[simp] theorem position_new (n as) : (Elem.new n as).position = none := rfl

/-- the child that `add_unique_child` stores: the position is filled in if it is missing -/
def withPosition (cs : List (Nec × Elem)) (c : Elem) : Elem :=
  if c.position.isNone then c.setPosition (some cs.length) else c

@[simp] theorem name_withPosition (cs) (c : Elem) : (withPosition cs c).name = c.name := by
  unfold withPosition; split <;> simp
@[simp] theorem text_withPosition (cs) (e : Elem) : (withPosition cs e).text = e.text := by
  unfold withPosition; split <;> simp
@[simp] theorem standalone_withPosition (cs) (e : Elem) : (withPosition cs e).standalone = e.standalone := by
  unfold withPosition; split <;> simp
@[simp] theorem count_withPosition (cs) (e : Elem) : (withPosition cs e).count = e.count := by
  unfold withPosition; split <;> simp
@[simp] theorem attrs_withPosition (cs) (e : Elem) : (withPosition cs e).attrs = e.attrs := by
  unfold withPosition; split <;> simp
@[simp] theorem children_withPosition (cs) (e : Elem) : (withPosition cs e).children = e.children := by
  unfold withPosition; split <;> simp
theorem position_withPosition (cs : List (Nec × Elem)) (e : Elem) :
    (withPosition cs e).position = e.position.or (some cs.length) := by
  unfold withPosition; cases e with | mk n t s c a k p => cases p <;> rfl

/-- structural induction over the tree: the nested recursor with the list motive spelt out as membership, so that proofs
about trees need no `termination_by sizeOf` -/
theorem Elem.ind {P : Elem → Prop} (step : ∀ e, (∀ c ∈ e.children, P c.2) → P e) (e : Elem) : P e :=
  @Elem.rec P (fun cs => ∀ c ∈ cs, P c.2) (fun c => P c.2) (fun n t st cnt as cs p ih => step (.mk n t st cnt as cs p) ih)
    (fun _ h => nomatch h) (fun _ _ ihd itl _ hc => by cases hc with | head => exact ihd | tail _ h => exact itl _ h)
    (fun _ _ ih => ih) e

end Xsg
