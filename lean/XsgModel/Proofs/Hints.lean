import XsgModel.Proofs.Walk
/-! `compute_name_hints`: every element of the walk has a hint (`hint_of_entry`), every hint is at least 1, and the hint of a
name that occurs once is 1 -/
namespace Xsg

theorem fillKids_eq (trace : List Name) (cs : List (Nec × Elem)) :
    fillNames.fillKids trace cs = cs.flatMap fun c => fillNames trace c.2 := by
  induction cs with
  | nil => rfl
  | cons c cs ih => obtain ⟨_, e⟩ := c; simp [fillNames.fillKids, ih]

theorem fillNames_eq (trace : List Name) (e : Elem) :
    fillNames trace e = (pascal e.name, pascal e.name :: trace) ::
      e.children.flatMap fun c => fillNames (pascal e.name :: trace) c.2 := by
  cases e; simp [fillNames, fillKids_eq, Elem.name, Elem.children]

theorem fillNames_ne_nil (e : Elem) : ∀ (trace : List Name), ∀ p ∈ fillNames trace e, p.2 ≠ [] := by
  induction e using Elem.ind with
  | step e ih =>
    intro trace p hp
    rw [fillNames_eq, List.mem_cons, List.mem_flatMap] at hp
    rcases hp with rfl | ⟨c, hc, hp⟩
    · simp
    · exact ih c hc _ p hp

theorem minimalDifferentLengths_pos (g : List (List Name)) (hne : g ≠ []) (h : ∀ t ∈ g, t ≠ []) :
    1 ≤ minimalDifferentLengths g := by
  obtain ⟨t, ht⟩ := List.exists_mem_of_ne_nil g hne
  have hpos : 0 < t.length := List.length_pos_iff.mpr (h t ht)
  unfold minimalDifferentLengths
  simp only
  split
  · omega
  · -- no length separates the traces: the result is the length of the longest one
    cases hm : (g.map List.length).max? with
    | none => exact absurd (List.max?_eq_none_iff.mp hm) (by simpa using hne)
    | some m =>
      have := (List.max?_eq_some_iff.mp hm).2 _ (List.mem_map_of_mem ht)
      simp only [Option.getD_some]; omega

/-- no smaller number of trace items (up to the length of the shortest trace) separates the traces -/
theorem minimalDifferentLengths_least (g : List (List Name)) (i : Nat) (h1 : 1 ≤ i) (hlt : i < minimalDifferentLengths g)
    (hmin : i ≤ (g.map List.length).min?.getD 0) : ¬ (g.map (traceBuffer i)).Nodup := by
  have hi : i - 1 + 1 = i := Nat.sub_add_cancel h1
  unfold minimalDifferentLengths at hlt
  simp only at hlt
  split at hlt
  · next i0 hfind => simpa [hi] using find?_range_least hfind (i - 1) (by omega)
  · next hnone => simpa [hi] using List.find?_eq_none.mp hnone (i - 1) (List.mem_range.mpr (by omega))

theorem mem_traceGroup {all : List (Name × List Name)} {k : Name} {tr : List Name} :
    tr ∈ traceGroup all k ↔ (k, tr) ∈ all := by
  simp only [traceGroup, List.mem_map, List.mem_filter, decide_eq_true_eq]
  exact ⟨fun ⟨p, ⟨hp, hk⟩, ht⟩ => hk ▸ ht ▸ hp, fun h => ⟨_, ⟨h, rfl⟩, rfl⟩⟩

theorem hintOf_eq_none {all : List (Name × List Name)} {k : Name} : hintOf all k = none ↔ traceGroup all k = [] := by
  unfold hintOf
  split
  · next h => simp [h]
  · next h => simp [h]
  · next hne _ => simpa using hne

theorem hintOf_pos (all : List (Name × List Name)) (hall : ∀ p ∈ all, p.2 ≠ []) (k : Name) (n : Nat)
    (h : hintOf all k = some n) : 1 ≤ n := by
  unfold hintOf at h
  split at h
  · cases h
  · exact Nat.le_of_eq (Option.some.inj h)
  · next hne _ =>
    exact Option.some.inj h ▸ minimalDifferentLengths_pos _ hne fun t ht => hall (k, t) (mem_traceGroup.mp ht)

theorem hintOf_single (all : List (Name × List Name)) (k : Name) (tr : List Name) (h : traceGroup all k = [tr]) :
    hintOf all k = some 1 := by
  unfold hintOf; rw [h]

theorem walk_in_fill (s : SortBy) (e : Elem) (path trace tr0 : List Name) :
    ∀ en ∈ walk s path trace e, ∃ tr, (pascal en.elem.name, tr) ∈ fillNames tr0 e := by
  intro en hen
  induction hen using walk_induction generalizing tr0 with
  | root => exact ⟨_, by rw [fillNames_eq]; exact List.mem_cons_self⟩
  | child _ _ e c _ hc _ _ ih =>
    obtain ⟨tr, htr⟩ := ih (pascal e.name :: tr0)
    exact ⟨tr, by rw [fillNames_eq]; exact List.mem_cons_of_mem _ (List.mem_flatMap.mpr ⟨c, hc, htr⟩)⟩

theorem walkKids_in_fill (s : SortBy) (cs : List (Nec × Elem)) (path trace tr0 : List Name) :
    ∀ q ∈ walk.walkKids s path trace cs, ∀ en ∈ q.2,
      (∃ tr, (pascal en.elem.name, tr) ∈ fillNames.fillKids tr0 cs) ∧ en.path.getLast? = some en.elem.name := by
  intro q hq en hen
  simp only [walkKids_eq, List.mem_map, List.mem_filter] at hq
  obtain ⟨c, ⟨hc, _⟩, rfl⟩ := hq
  obtain ⟨tr, htr⟩ := walk_in_fill s c.2 path trace tr0 en hen
  exact ⟨⟨tr, by rw [fillKids_eq]; exact List.mem_flatMap.mpr ⟨c, hc, htr⟩⟩, walk_path_getLast s c.2 path trace en hen⟩

theorem hint_of_entry (s : SortBy) (root : Elem) (en : Entry) (hen : en ∈ walk s [] [] root) :
    ∃ n, hintOf (fillNames [] root) (pascal en.elem.name) = some n ∧ 1 ≤ n := by
  obtain ⟨tr, htr⟩ := walk_in_fill s root [] [] [] en hen
  cases h : hintOf (fillNames [] root) (pascal en.elem.name) with
  | none => exact absurd (hintOf_eq_none.mp h ▸ mem_traceGroup.mpr htr) List.not_mem_nil
  | some n => exact ⟨n, rfl, hintOf_pos _ (fillNames_ne_nil root []) _ _ h⟩

end Xsg
