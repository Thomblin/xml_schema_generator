import XsgModel.Proofs.Matches
/-! `Matches` determines the schema up to field order: the clauses that `Grows` and `SchemaEq` keep depend on the
occurrences through membership only (the attribute order and the positions, which `Matches` also fixes, do not) -/
namespace Xsg

/-- two element trees stand for the same schema up to the order of fields: same text flag, same attribute
names with the same necessity, same child names with the same necessity and multiplicity, recursively -/
inductive SchemaEq : Elem → Elem → Prop
  | intro (e e' : Elem)
      (htext : e.text = e'.text)
      (hattr : ∀ a, a ∈ names e.attrs ↔ a ∈ names e'.attrs)
      (hattr_man : ∀ a, (Nec.man, a) ∈ e.attrs ↔ (Nec.man, a) ∈ e'.attrs)
      (hnone : ∀ k, getChild e.children k = none ↔ getChild e'.children k = none)
      (hkid_nec : ∀ k n c n' c', getChild e.children k = some (n, c) → getChild e'.children k = some (n', c') → n = n')
      (hkid_multi : ∀ k n c n' c', getChild e.children k = some (n, c) → getChild e'.children k = some (n', c') →
        c.standalone = c'.standalone)
      (hkid_sub : ∀ k n c n' c', getChild e.children k = some (n, c) → getChild e'.children k = some (n', c') → SchemaEq c c')
      : SchemaEq e e'

/-- later documents never drop a field, never turn an Option field into a required one, never turn a Vec
field into a single one, never clear the text flag -/
inductive Grows : Elem → Elem → Prop
  | intro (e e' : Elem)
      (htext : e.text = true → e'.text = true)
      (hattr : ∀ a, a ∈ names e.attrs → a ∈ names e'.attrs)
      (hattr_opt : ∀ a, a ∈ names e.attrs → (Nec.man, a) ∉ e.attrs → (Nec.man, a) ∉ e'.attrs)
      (hkid_some : ∀ k n c, getChild e.children k = some (n, c) → getChild e'.children k ≠ none)
      (hkid_opt : ∀ k c n' c', getChild e.children k = some (Nec.opt, c) → getChild e'.children k = some (n', c') → n' = .opt)
      (hkid_multi : ∀ k n c n' c', getChild e.children k = some (n, c) → getChild e'.children k = some (n', c') →
        c.standalone = false → c'.standalone = false)
      (hkid_sub : ∀ k n c n' c', getChild e.children k = some (n, c) → getChild e'.children k = some (n', c') → Grows c c')
      : Grows e e'

theorem matches_grows {e : Elem} {occs : List Node} (h : Matches e occs) :
    ∀ {e' : Elem} {occs' : List Node}, Matches e' occs' → (∀ o, o ∈ occs → o ∈ occs') → Grows e e' := by
  induction h using Matches.induct with
  | step e occs h ih =>
    intro e' occs' h' hsub'
    -- what holds of all later occurrences holds of the earlier ones, and an earlier witness is a later one
    have all : ∀ {P : Node → Prop}, (∀ o ∈ occs', P o) → ∀ o ∈ occs, P o := fun h o ho => h o (hsub' o ho)
    have ex : ∀ {P : Node → Prop}, (∃ o ∈ occs, P o) → ∃ o ∈ occs', P o := fun ⟨o, ho, hp⟩ => ⟨o, hsub' o ho, hp⟩
    refine Grows.intro _ _ ?_ ?_ ?_ ?_ ?_ ?_ ?_
    · rw [h.text, h'.text]; simp only [List.any_eq_true]; exact ex
    · intro a; rw [h.mem_attrs, h'.mem_attrs]; exact ex
    · exact fun a _ hn hm => hn ((h.attr_man a).mpr (all ((h'.attr_man a).mp hm)))
    · intro k n c hc hc'
      have := (h.absent_iff k).mpr (all ((h'.absent_iff k).mp hc'))
      rw [hc] at this; cases this
    · intro k c n' c' hc hc'
      cases n' with
      | opt => rfl
      | man => cases (h.man_iff k _ _ hc).mpr (all ((h'.man_iff k _ _ hc').mp rfl))
    · exact fun k n c n' c' hc hc' hs => (h'.multi_iff k n' c' hc').mpr (ex ((h.multi_iff k n c hc).mp hs))
    · intro k n c n' c' hc hc'
      refine ih k n c hc (h'.child k n' c' hc') fun o ho => ?_
      rw [List.mem_flatMap] at ho ⊢; exact ex ho

theorem Nec.eq_of_opt_imp {n n' : Nec} (h : n = .opt → n' = .opt) (h' : n' = .opt → n = .opt) : n = n' := by
  cases n with
  | opt => exact (h rfl).symm
  | man => cases n' with
    | man => rfl
    | opt => exact h' rfl

theorem Bool.eq_of_false_imp {b b' : Bool} (h : b = false → b' = false) (h' : b' = false → b = false) : b = b' := by
  cases b with
  | false => exact (h rfl).symm
  | true => cases b' with
    | true => rfl
    | false => exact h' rfl

/-- growing in both directions is equality up to field order -/
theorem SchemaEq.of_grows {e e' : Elem} (h : Grows e e') : Grows e' e → SchemaEq e e' := by
  induction h with
  | intro e e' htext hattr hattr_opt hkid_some hkid_opt hkid_multi hkid_sub ih =>
    intro h'
    obtain ⟨_, _, htext', hattr', hattr_opt', hkid_some', hkid_opt', hkid_multi', hkid_sub'⟩ := h'
    -- an attribute that is mandatory on one side cannot be optional on the other, which has grown from it
    have hman : ∀ {e e' : Elem}, (∀ a, a ∈ names e.attrs → a ∈ names e'.attrs) →
        (∀ a, a ∈ names e'.attrs → (Nec.man, a) ∉ e'.attrs → (Nec.man, a) ∉ e.attrs) →
        ∀ a, (Nec.man, a) ∈ e.attrs → (Nec.man, a) ∈ e'.attrs :=
      fun h1 h2 a ha => Decidable.byContradiction fun hn => h2 a (h1 a (List.mem_map.mpr ⟨_, ha, rfl⟩)) hn ha
    have hnone : ∀ {a b : Elem}, (∀ k n c, getChild a.children k = some (n, c) → getChild b.children k ≠ none) →
        ∀ k, getChild b.children k = none → getChild a.children k = none := fun {a _} h1 k hn => by
      cases hc : getChild a.children k with
      | none => rfl
      | some c => exact absurd hn (h1 k c.1 c.2 hc)
    exact .intro _ _ (Bool.eq_iff_iff.mpr ⟨htext, htext'⟩) (fun a => ⟨hattr a, hattr' a⟩)
      (fun a => ⟨hman hattr hattr_opt' a, hman hattr' hattr_opt a⟩)
      (fun k => ⟨hnone hkid_some' k, hnone hkid_some k⟩)
      (fun k n c n' c' hc hc' => Nec.eq_of_opt_imp (fun hn => hkid_opt k c n' c' (hn ▸ hc) hc') (fun hn => hkid_opt' k c' n c (hn ▸ hc') hc))
      (fun k n c n' c' hc hc' => Bool.eq_of_false_imp (hkid_multi k n c n' c' hc hc') (hkid_multi' k n' c' n c hc' hc))
      (fun k n c n' c' hc hc' => ih k n c n' c' hc hc' (hkid_sub' k n' c' n c hc' hc))

/-- the schema is determined by the *set* of occurrences: order and repetition of occurrences do not matter -/
theorem matches_unique {e : Elem} {occs : List Node} (h : Matches e occs) :
    ∀ {e' : Elem} {occs' : List Node}, Matches e' occs' → (∀ o, o ∈ occs ↔ o ∈ occs') → SchemaEq e e' := fun h' hmem =>
  .of_grows (matches_grows h h' fun o => (hmem o).mp) (matches_grows h' h fun o => (hmem o).mpr)

end Xsg
