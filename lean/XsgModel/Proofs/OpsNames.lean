import XsgModel.Proofs.Ops
import XsgModel.Proofs.TreeNames
/-!
# Trees built by the public operations keep legal, distinct names (for the rendering clause of C16)

If every name handed to the operations satisfies `p` and the attribute lists handed to `Element::new` and
`merge_attr` are duplicate-free, every reachable tree satisfies `TreeOK p` (names satisfy `p`, attribute names
distinct per element) — together with `Elem.Inv` exactly what the C04 theorems need.
-/
namespace Xsg

/-- which operations are within the scope of the rendering clause -/
def Op.ok (p : Name → Bool) : Op → Prop
  | .add _ name attrs => p name = true ∧ (∀ a ∈ attrs, p a = true) ∧ attrs.Nodup
  | .mergeAttr _ l => (∀ a ∈ names l, p a = true) ∧ (names l).Nodup
  | _ => True

theorem TreeOK_new (p : Name → Bool) (name : Name) (attrs : List Name) (hn : p name = true) (ha : ∀ a ∈ attrs, p a = true)
    (hnd : attrs.Nodup) : TreeOK p (Elem.new name attrs) := by
  refine TreeOK.intro _ hn ?_ ?_ ?_
  · intro a h
    simp only [Elem.new, Elem.attrs, names, List.map_map, List.mem_map, Function.comp] at h
    obtain ⟨x, hx, rfl⟩ := h
    exact ha x hx
  · simpa [Elem.new, Elem.attrs, names, List.map_map, Function.comp_def] using hnd
  · intro c hc; simp [Elem.new, Elem.children] at hc

theorem TreeOK_modifyAt (p : Name → Bool) (path : List Name) (f : Elem → Elem) (hf : ∀ e, TreeOK p e → TreeOK p (f e))
    (e : Elem) (h : TreeOK p e) : TreeOK p (modifyAt path f e) := by
  induction path generalizing e with
  | nil => exact hf e h
  | cons q qs ih =>
    simp only [modifyAt]
    apply h.setKids
    intro c hc
    rcases mem_modifyFirst hc with hc | ⟨d, hd, rfl⟩
    · exact h.kids c hc
    · exact ih d.2 (h.kids d hd)

theorem TreeOK_elemAt (p : Name → Bool) (path : List Name) (t e : Elem) : TreeOK p t → elemAt path t = some e → TreeOK p e :=
  elemAt_inherit (fun _ h => h.kids) path t e

theorem TreeOK_withPosition (p : Name → Bool) (cs : List (Nec × Elem)) (e : Elem) (h : TreeOK p e) : TreeOK p (withPosition cs e) :=
  h.congr (name_withPosition _ _) (attrs_withPosition _ _) (children_withPosition _ _)

theorem TreeOK_addChild (p : Name → Bool) {e c : Elem} (he : TreeOK p e) (hc : TreeOK p c) :
    TreeOK p (e.setChildren (addUniqueChild e.children c)) :=
  he.setKids _ fun d hd => (mem_addUniqueChild hd).elim (he.kids d) fun e' => e' ▸ TreeOK_withPosition p _ _ hc

theorem TreeOK_remove (p : Name → Bool) (name : Name) (e : Elem) (he : TreeOK p e) :
    TreeOK p (e.setChildren (eraseChild e.children name)) :=
  he.setKids _ fun c hc => he.kids c (mem_eraseChild hc)

theorem TreeOK_op (p : Name → Bool) (t : Elem) (op : Op) (hop : op.ok p) (h : TreeOK p t) :
    TreeOK p (applyOp t op).1 := by
  cases op with
  | add path name attrs =>
    obtain ⟨hn, ha, hnd⟩ := hop
    exact TreeOK_modifyAt p path _ (fun e he => TreeOK_addChild p he (TreeOK_new p name attrs hn ha hnd)) t h
  | setOptional path name =>
    exact TreeOK_modifyAt p path _ (fun e he => he.setKids _ fun c hc =>
      let ⟨d, hd, e'⟩ := mem_setChildOptional hc; e' ▸ he.kids d hd) t h
  | remove path name =>
    exact TreeOK_modifyAt p path _ (TreeOK_remove p name) t h
  | mergeAttr path l =>
    obtain ⟨hl, hnd⟩ := hop
    apply TreeOK_modifyAt p path _ _ t h
    intro e he
    refine TreeOK.intro _ (by rw [name_mergeAttr]; exact he.name) ?_ ?_ (by rw [children_mergeAttr]; exact he.kids) <;>
      rw [attrs_mergeAttr]
    · exact fun a ha => ((mem_names_mergeNec e.attrs l hnd a).mp ha).elim (he.attrs a) (hl a)
    · exact nodup_names_mergeNec e.attrs l he.nodup hnd
  | setMultiple path | setText path =>
    apply TreeOK_modifyAt p path _ _ t h
    intro e he
    apply he.congr <;> cases e <;> rfl
  | get path name => exact h
  | move src name dst =>
    rcases applyOp_move t src name dst with h' | ⟨e, c, he, hg, h'⟩ <;> rw [h']
    · exact h
    · have hck : TreeOK p c.2 := (TreeOK_elemAt p src t e h he).kids c (getChild_some_mem hg)
      exact TreeOK_modifyAt p dst _ (fun e' he' => TreeOK_addChild p he' hck) _ (TreeOK_modifyAt p src _ (TreeOK_remove p name) t h)

end Xsg
