import XsgModel.Model.Render
/-! the insertion sort of the renderer model: its result is a sorted permutation of its input (`perm_insertionSort`,
`sorted_insertionSort`), and the model's orders on sort keys are a lexicographic order (`SortKey.le_iff`) -/
namespace Xsg

variable {α : Type}

theorem perm_insertSorted (le : α → α → Bool) (a : α) (l : List α) : (insertSorted le a l).Perm (a :: l) := by
  induction l with
  | nil => exact List.Perm.refl _
  | cons b bs ih =>
    unfold insertSorted
    split
    · exact List.Perm.refl _
    · exact (List.Perm.cons b ih).trans (List.Perm.swap a b bs)

theorem perm_insertionSort (le : α → α → Bool) (l : List α) : (insertionSort le l).Perm l := by
  induction l with
  | nil => exact List.Perm.refl _
  | cons a as ih =>
    show (insertSorted le a (insertionSort le as)).Perm (a :: as)
    exact (perm_insertSorted le a _).trans (List.Perm.cons a ih)

theorem mem_insertionSort {le : α → α → Bool} {l : List α} {x : α} : x ∈ insertionSort le l ↔ x ∈ l :=
  (perm_insertionSort le l).mem_iff

theorem length_insertionSort (le : α → α → Bool) (l : List α) : (insertionSort le l).length = l.length :=
  (perm_insertionSort le l).length_eq

theorem sorted_insertSorted (le : α → α → Bool) (htot : ∀ a b, le a b = true ∨ le b a = true)
    (htr : ∀ a b c, le a b = true → le b c = true → le a c = true)
    (a : α) (l : List α) (h : l.Pairwise (fun x y => le x y = true)) :
    (insertSorted le a l).Pairwise (fun x y => le x y = true) := by
  induction l with
  | nil => simp [insertSorted]
  | cons b bs ih =>
    obtain ⟨hb, hbs⟩ := List.pairwise_cons.mp h
    unfold insertSorted
    split
    · next hab =>
      exact List.pairwise_cons.mpr ⟨fun x hx => (List.mem_cons.mp hx).elim (· ▸ hab) fun hx => htr _ _ _ hab (hb x hx), h⟩
    · next hab =>
      refine List.pairwise_cons.mpr ⟨fun x hx => ?_, ih hbs⟩
      rcases List.mem_cons.mp ((perm_insertSorted le a bs).mem_iff.mp hx) with rfl | hx
      · exact (htot x b).resolve_left hab
      · exact hb x hx

theorem sorted_insertionSort (le : α → α → Bool) (htot : ∀ a b, le a b = true ∨ le b a = true)
    (htr : ∀ a b c, le a b = true → le b c = true → le a c = true) (l : List α) :
    (insertionSort le l).Pairwise (fun x y => le x y = true) := by
  induction l with
  | nil => exact List.Pairwise.nil
  | cons a as ih => exact sorted_insertSorted le htot htr a _ ih

theorem insertSorted_map {α β : Type} (f : α → β) (le : α → α → Bool) (le' : β → β → Bool)
    (h : ∀ a b, le' (f a) (f b) = le a b) (a : α) (l : List α) :
    insertSorted le' (f a) (l.map f) = (insertSorted le a l).map f := by
  induction l with
  | nil => rfl
  | cons b bs ih =>
    simp only [List.map_cons, insertSorted, h]
    split
    · rfl
    · simp [ih]

theorem insertionSort_map {α β : Type} (f : α → β) (le : α → α → Bool) (le' : β → β → Bool)
    (h : ∀ a b, le' (f a) (f b) = le a b) (l : List α) :
    insertionSort le' (l.map f) = (insertionSort le l).map f := by
  induction l with
  | nil => rfl
  | cons a as ih =>
    show insertSorted le' (f a) (insertionSort le' (as.map f)) = (insertSorted le a (insertionSort le as)).map f
    rw [ih, insertSorted_map f le le' h]

theorem nameLe_iff (a b : Name) : nameLe a b = true ↔ a.map Char.toNat ≤ b.map Char.toNat := by
  induction a generalizing b with
  | nil => simp [nameLe]
  | cons x xs ih => cases b <;> simp [nameLe, List.cons_le_cons_iff, ih]

/-- the sort keys as lists of numbers: `None`, then the positions, then the names -/
def SortKey.code : SortKey → List Nat
  | .pos none => [0]
  | .pos (some n) => [1, n]
  | .name s => 2 :: s.map Char.toNat

/-- `SortKey.le` is the lexicographic order of the codes (clause by clause), hence total and transitive -/
theorem SortKey.le_iff (a b : SortKey) : a.le b = true ↔ a.code ≤ b.code := by
  rcases a with (_ | m) | s <;> rcases b with (_ | n) | t <;>
    simp [SortKey.le, SortKey.code, List.cons_le_cons_iff, nameLe_iff, Nat.le_iff_lt_or_eq]

theorem SortKey.le_total (a b : SortKey) : a.le b = true ∨ b.le a = true := by
  simp only [SortKey.le_iff]; exact List.le_total _ _

theorem SortKey.le_trans (a b c : SortKey) (h1 : a.le b = true) (h2 : b.le c = true) : a.le c = true := by
  rw [SortKey.le_iff] at *; exact List.le_trans h1 h2

theorem sorted_sortKeyed (l : List (SortKey × α)) : (sortKeyed l).Pairwise (fun x y => x.1.le y.1 = true) :=
  sorted_insertionSort _ (fun a b => SortKey.le_total a.1 b.1) (fun a b c => SortKey.le_trans a.1 b.1 c.1) l

theorem mem_sortKeyed {l : List (SortKey × α)} {x} : x ∈ sortKeyed l ↔ x ∈ l := mem_insertionSort

theorem perm_sortOn (key : α → SortKey) (l : List α) : (sortOn key l).Perm l := by
  unfold sortOn
  have h := (perm_insertionSort (fun (a b : SortKey × α) => a.1.le b.1) (l.map fun a => (key a, a))).map (·.2)
  simpa [sortKeyed, List.map_map, Function.comp_def] using h

theorem mem_sortOn {key : α → SortKey} {l : List α} {x : α} : x ∈ sortOn key l ↔ x ∈ l := (perm_sortOn key l).mem_iff

theorem sorted_sortOn (key : α → SortKey) (l : List α) : (sortOn key l).Pairwise (fun x y => (key x).le (key y) = true) := by
  unfold sortOn
  rw [List.pairwise_map]
  have h := sorted_sortKeyed (l.map fun a => (key a, a))
  refine h.imp_of_mem ?_
  intro a b ha hb hab
  rw [mem_sortKeyed, List.mem_map] at ha hb
  obtain ⟨x, _, rfl⟩ := ha
  obtain ⟨y, _, rfl⟩ := hb
  exact hab

theorem perm_sortedAttrs (o : Options) (e : Elem) : (sortedAttrs o e).Perm e.attrs := by
  unfold sortedAttrs
  cases o.sort
  · exact .refl _
  · exact perm_sortOn _ _

theorem perm_sortedChildren (o : Options) (e : Elem) : (sortedChildren o e).Perm e.children := perm_sortOn _ _

end Xsg
