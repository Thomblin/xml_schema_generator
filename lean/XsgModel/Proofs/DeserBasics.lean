import XsgModel.Model.Deser
import XsgModel.Proofs.Items
/-!
# Documents with values: erasure, text runs, and the deserializer model on the list of child elements

What `VNode.erase` keeps (`erase_elems`, `erase_named`, `erase_hasText`); when quick-xml reports character data
(`texts_quick_hasText`); and the recursions over `VItems` restated as list operations over `VItems.elems`
(`deItems_eq_map`, `values_eq`, `inModel_eq_all`, …), which is the form the later proofs use.
-/
namespace Xsg

theorem VNode.erase_name (n : VNode) : n.erase.name = n.name := by
  cases n; simp [VNode.erase, Node.name, VNode.name]

theorem VItems.erase_elems : ∀ items : VItems, items.erase.elems = items.elems.map VNode.erase
  | .nil => rfl
  | .elem n r => by rw [VItems.erase, Items.elems, VItems.elems, List.map_cons, VItems.erase_elems r]
  | .text _ _ r => by rw [VItems.erase]; split <;> exact VItems.erase_elems r
  | .other _ r => VItems.erase_elems r

theorem VItems.erase_named (k : Name) (items : VItems) :
    items.erase.named k = (items.elems.filter (fun c => c.name = k)).map VNode.erase := by
  rw [Items.named_eq, VItems.erase_elems, List.filter_map]
  congr 2
  funext c
  simp [VNode.erase_name]

theorem VNode.erase_named (k : Name) (n : VNode) :
    n.erase.named k = (n.items.elems.filter (fun c => c.name = k)).map VNode.erase := by
  cases n with
  | mk nm as sc items => simp [VNode.erase, Node.named, Node.items, VNode.items, VItems.erase_named]

theorem VNode.erase_attrs (n : VNode) : n.erase.attrs = n.attrs.map (·.1) := by
  cases n; simp [VNode.erase, Node.attrs, VNode.attrs]

/-- a piece that the reader reports: CDATA, or text that is not white space only -/
def reported (p : Bool × Str) : Bool := p.1 || !allWs p.2

theorem VItems.erase_hasText : ∀ items : VItems, items.erase.hasText = items.pieces.any reported
  | .nil => by simp [VItems.erase, Items.hasText, VItems.pieces]
  | .text cd s r => by
    have ih := VItems.erase_hasText r
    simp only [VItems.erase, VItems.pieces, List.any_cons, reported]
    split
    · rename_i h
      simp only [Bool.and_eq_true, Bool.not_eq_true'] at h
      simp [h.1, h.2, ih]
    · rename_i h
      simp only [Items.hasText]
      cases cd <;> simp_all
  | .elem _ r | .other _ r => by simp [VItems.erase, Items.hasText, VItems.pieces, VItems.erase_hasText r]

theorem dropLeadingWs_eq : ∀ ps : List (Bool × Str), dropLeadingWs ps = ps.dropWhile (fun p => !reported p)
  | [] => rfl
  | (cd, s) :: r => by
    rw [dropLeadingWs, List.dropWhile_cons, dropLeadingWs_eq r]
    cases cd <;> cases h : allWs s <;> simp [reported, h]

theorem runText_some_reported (ps : List (Bool × Str)) (s : Str) (h : runText ps = some s) : ps.any reported = true := by
  unfold runText at h
  split at h
  · cases h
  · rename_i cd s' r hd
    rw [dropLeadingWs_eq] at hd
    have hr := List.head?_dropWhile_not (fun p => !reported p) ps
    rw [hd] at hr
    exact List.any_eq_true.mpr ⟨(cd, s'), List.dropWhile_subset _ (hd ▸ List.mem_cons_self), by simpa using hr⟩

theorem VItems.runs_flatten (b : Bool) : ∀ items : VItems, (items.runs b).flatten = items.pieces
  | .nil => rfl
  | .elem _ r => by rw [VItems.runs, List.flatten_cons, List.nil_append, VItems.runs_flatten b r, VItems.pieces]
  | .text cd s r => by
    rw [VItems.runs, VItems.pieces, ← VItems.runs_flatten b r]
    cases VItems.runs b r <;> rfl
  | .other pi r => by
    rw [VItems.runs, VItems.pieces, ← VItems.runs_flatten b r]
    split <;> rfl

/-- if quick-xml reports character data for an element, the reader reports a text or CDATA event for it -/
theorem texts_quick_hasText (items : VItems) (h : DeCfg.quickXml.texts items ≠ []) : items.erase.hasText = true := by
  rw [VItems.erase_hasText]
  obtain ⟨s, hs⟩ := List.exists_mem_of_ne_nil _ h
  simp only [DeCfg.texts, List.mem_filterMap] at hs
  obtain ⟨run, hrun, hs⟩ := hs
  have := runText_some_reported run s hs
  rw [List.any_eq_true] at this ⊢
  obtain ⟨p, hp, hr⟩ := this
  exact ⟨p, VItems.runs_flatten _ items ▸ List.mem_flatten.mpr ⟨run, hrun, hp⟩, hr⟩

/-- the result for one child element (the body of `deItems`) -/
def kidRes (cfg : DeCfg) (p : List PStruct) (deny : Bool) (fs : List PField) (c : VNode) : KidRes :=
  ⟨cfg.elemKey c.name, c.name, match findField fs (cfg.elemKey c.name) with
    | none => .error .unknown
    | some f => if f.base = stringTy then deStringElem cfg c else deNode cfg p deny f.base c⟩

theorem deItems_eq_map (cfg : DeCfg) (p : List PStruct) (deny : Bool) (fs : List PField) :
    ∀ items : VItems, deItems cfg p deny fs items = items.elems.map (kidRes cfg p deny fs)
  | .nil => by simp [deItems, VItems.elems]
  | .elem c r => by
    rw [deItems, VItems.elems, List.map_cons, deItems_eq_map cfg p deny fs r, kidRes]
    cases findField fs (cfg.elemKey c.name) <;> rfl
  | .text _ _ r | .other _ r => by simp [deItems, VItems.elems, deItems_eq_map cfg p deny fs r]

theorem kidRes_key {cfg p deny fs} (c : VNode) : (kidRes cfg p deny fs c).key = cfg.elemKey c.name := rfl

theorem kidRes_qname {cfg p deny fs} (c : VNode) : (kidRes cfg p deny fs c).qname = c.name := rfl

theorem kidRes_val {cfg : DeCfg} {p : List PStruct} {deny : Bool} {fs : List PField} {c : VNode} {f : PField}
    (h : findField fs (cfg.elemKey c.name) = some f) :
    (kidRes cfg p deny fs c).val = if f.base = stringTy then deStringElem cfg c else deNode cfg p deny f.base c := by
  rw [kidRes, h]

theorem deNode_of_find {cfg : DeCfg} {p : List PStruct} {s : Name} {sd : PStruct} (h : findStruct p s = some sd) (deny : Bool)
    (n : VNode) : deNode cfg p deny s n =
      assemble cfg deny sd n.attrs (cfg.texts n.items).head? (n.items.elems.map (kidRes cfg p deny sd.fields)) := by
  cases n
  simp only [deNode, h, deItems_eq_map, VNode.attrs, VNode.items]

mutual
theorem VNode.induction_elems {P : VNode → Prop} (step : ∀ n, (∀ c ∈ n.items.elems, P c) → P n) : ∀ n, P n
  | .mk _ _ _ is => step _ (VItems.induction_elems step is)
theorem VItems.induction_elems {P : VNode → Prop} (step : ∀ n, (∀ c ∈ n.items.elems, P c) → P n) :
    ∀ is : VItems, ∀ c ∈ is.elems, P c
  | .nil => fun _ h => nomatch h
  | .elem m r => fun _ h => (List.mem_cons.mp h).elim (· ▸ VNode.induction_elems step m) (VItems.induction_elems step r _)
  | .text _ _ r | .other _ r => VItems.induction_elems step r
end

theorem VItems.values_eq (cfg : DeCfg) : ∀ items : VItems, items.values cfg = items.elems.flatMap (VNode.values cfg)
  | .nil => rfl
  | .elem n r => by rw [VItems.values, VItems.elems, List.flatMap_cons, VItems.values_eq cfg r]
  | .text _ _ r | .other _ r => VItems.values_eq cfg r

theorem VNode.values_eq (cfg : DeCfg) (n : VNode) :
    n.values cfg = n.attrs.map (·.2) ++ cfg.texts n.items ++ n.items.elems.flatMap (VNode.values cfg) := by
  cases n with
  | mk nm as sc items => simp [VNode.values, VNode.attrs, VNode.items, VItems.values_eq]

theorem VItems.inModel_eq_all (cfg : DeCfg) : ∀ items : VItems, items.inModel cfg = items.elems.all (VNode.inModel cfg)
  | .nil => rfl
  | .elem n r => by rw [VItems.inModel, VItems.elems, List.all_cons, VItems.inModel_eq_all cfg r]
  | .text _ _ r | .other _ r => VItems.inModel_eq_all cfg r

theorem VItems.erase_ok_eq_all (items : VItems) : items.erase.ok = items.elems.all (fun c => c.erase.ok) := by
  rw [Items.ok_eq, VItems.erase_elems, List.all_map]
  rfl

/-- all the proofs use of `inModel`: at most one character-data report, at every element.  Its other two clauses (no
`…:nil` attribute, no character data beside child elements) bound where the model is claimed to agree with the crates,
not what the model accepts -/
theorem VNode.inModel_elems {cfg : DeCfg} {n : VNode} (h : n.inModel cfg = true) :
    (cfg.texts n.items).length ≤ 1 ∧ ∀ c ∈ n.items.elems, c.inModel cfg = true := by
  cases n
  simp only [VNode.inModel, Bool.and_eq_true, decide_eq_true_eq, VItems.inModel_eq_all, List.all_eq_true] at h
  exact ⟨h.1.1.2, h.2⟩

theorem VNode.erase_ok_elems {n : VNode} (h : n.erase.ok = true) :
    (n.attrs.map (·.1)).Nodup ∧ ∀ c ∈ n.items.elems, c.erase.ok = true := by
  cases n
  simp only [VNode.erase, Node.ok, Bool.and_eq_true, decide_eq_true_eq, VItems.erase_ok_eq_all, List.all_eq_true] at h
  exact ⟨h.1.1, h.2⟩

end Xsg
