import XsgModel.Proofs.DeserGen
/-!
# The quick-xml preset is linked to the model of `quick_xml::de`

`quick_xml::de` offers an attribute under `@` + local name, a child under its local name and character data under
`$text`: the serde names the preset gives (`keys_quick`).

Side condition (`Elem.keysOK`): per tree element, the serde names of the attributes, and of the children, are
pairwise distinct ("no names clash after removing namespace prefixes"), and no child's serde name is `$text`
or begins with `@` (true of every XML name).
-/
namespace Xsg

/-- a child name whose serde name cannot be mistaken for the text key or an attribute key (true of every XML name) -/
def childKeyOK (k : Name) : Bool :=
  decide (removeNamespace k ≠ cl!"$text") && decide ((removeNamespace k).head? ≠ some '@')

/-- per element: serde names of attributes distinct, serde names of children distinct and well-shaped; recursively.
This is the side condition of the theorems.  The driver filters its cases with the model's `Schema.noPrefixClash`,
which does not ask `childKeyOK`; no lemma relates the two. -/
def Elem.keysOK : Elem → Bool
  | .mk _ _ _ _ as cs _ =>
    decide (((as.map (·.2)).map attrLocal).Nodup) && decide (((cs.map (·.2.name)).map removeNamespace).Nodup) &&
    cs.all (fun c => childKeyOK c.2.name) && keysKids cs
where
  keysKids : List (Nec × Elem) → Bool
    | [] => true
    | (_, e) :: rest => e.keysOK && keysKids rest

theorem Elem.keysKids_eq (cs : List (Nec × Elem)) : Elem.keysOK.keysKids cs = cs.all (fun c => c.2.keysOK) :=
  all_of_rec rfl (fun _ _ => rfl) cs

theorem keysOK_iff (e : Elem) : e.keysOK = true ↔
    ((names e.attrs).map attrLocal).Nodup ∧ ((childNames e.children).map removeNamespace).Nodup ∧
    (∀ c ∈ e.children, childKeyOK c.2.name = true) ∧ ∀ c ∈ e.children, c.2.keysOK = true := by
  cases e with
  | mk n t s c as cs p =>
    simp only [Elem.keysOK, Bool.and_eq_true, decide_eq_true_eq, Elem.keysKids_eq, List.all_eq_true, Elem.attrs, Elem.children,
      names, childNames]
    constructor
    · rintro ⟨⟨⟨h1, h2⟩, h3⟩, h4⟩; exact ⟨h1, h2, h3, h4⟩
    · rintro ⟨h1, h2, h3, h4⟩; exact ⟨⟨⟨h1, h2⟩, h3⟩, h4⟩

abbrev oQ : Options := Options.quickXmlDe
abbrev cQ : DeCfg := DeCfg.quickXml

theorem at_ne_text (x : Name) : cl!"@" ++ x ≠ cl!"$text" := by
  intro h; cases h

theorem childKeyOK_iff {k : Name} :
    childKeyOK k = true ↔ removeNamespace k ≠ cl!"$text" ∧ (removeNamespace k).head? ≠ some '@' := by
  simp only [childKeyOK, Bool.and_eq_true, decide_eq_true_eq]

theorem keys_quick {e : Elem} (hk : e.keysOK = true) : Keys oQ cQ true e := by
  obtain ⟨hkA, hkC, hkK, _⟩ := (keysOK_iff e).mp hk
  refine { attrs_nodup := ?_, kids_nodup := hkC, attr_ne_text := fun _ _ => at_ne_text _,
           attr_ne_kid := fun _ _ c hc e => (childKeyOK_iff.mp (hkK c hc)).2 (e ▸ rfl),
           text_ne_kid := fun c hc => (childKeyOK_iff.mp (hkK c hc)).1.symm,
           attrKey_eq := fun _ _ => rfl, elemKey_eq := fun _ _ => rfl, text_fed := fun _ => rfl,
           text_unfed := fun h => nomatch h }
  unfold List.Nodup at hkA ⊢
  rw [List.pairwise_map] at hkA ⊢
  exact hkA.imp (fun h e => h (by simpa [Options.quickXmlDe] using e))

def scopeQuick : Scope oQ cQ true where
  PE := fun e => e.keysOK = true
  PN := fun _ => True
  PE_child := fun e c h hc => by obtain ⟨-, -, -, hkids⟩ := (keysOK_iff e).mp h; exact hkids c hc
  PN_child := fun _ _ _ _ => trivial
  link := fun e n hk _ _ hadm => (keys_quick hk).link hadm.withValues (fun h => by cases h) fun _ hne =>
    hadm.withValues.text (by cases n; exact texts_quick_hasText _ hne)
  bounds := fun hints names' _ hk _ => (keys_quick hk).bounds hints names'

/-- the quick-xml deserializer is fed the character data: `kept_true_eq_values` at `cQ` -/
theorem kept_eq_values (e : Elem) (n : VNode) (hinv : e.Inv = true) (hadm : Admits e n.erase) :
    n.kept true cQ e = n.values cQ := kept_true_eq_values cQ e n hadm

/-- The quick-xml deserializer model returns a value for every admitted document element that is well-formed and inside
the model, where the tree satisfies `keysOK`, for the struct rendered for the tree element, with and without
`deny_unknown_fields`, and the non-empty strings of the value are, as a multiset, those of the element. -/
theorem deNode_ok (t : Elem) (htInv : t.Inv = true) (deny : Bool) (n : VNode) (en : Entry)
    (hen : en ∈ walk oQ.sort [] [] t) (hkeys : en.elem.keysOK = true) (hinv : en.elem.Inv = true)
    (hadm : Admits en.elem n.erase) (hok : n.erase.ok = true) (hmodel : n.inModel cQ = true) :
    ∃ v, deNode cQ ((renderAST oQ t).map StructDef.plain) deny
      (structNameOf (hintOf (fillNames [] t)) (structNames (hintOf (fillNames [] t)) t) en.path en.trace en.elem) n = .ok v ∧
      (ne v.strings).Perm (ne (n.values cQ)) := by
  rw [← kept_eq_values en.elem n hinv hadm]
  exact deNode_gen oQ cQ true rfl scopeQuick t htInv deny (fun _ => rfl) n en hen hkeys trivial hinv hadm hok hmodel

end Xsg
