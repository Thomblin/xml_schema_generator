import XsgModel.Proofs.Fields
import XsgModel.Proofs.ListFacts
/-! the child list of an element as a finite map keyed by name: lookup, and for each function that changes the list
(`eraseChild`, `addUniqueChild`, `setChildOptional`, the latter folded over names) what a lookup finds afterwards, that
names stay unique, the length, and where the members come from -/
namespace Xsg

/-! ### lookup -/

theorem getChild_none_iff {cs : List (Nec × Elem)} {n : Name} : getChild cs n = none ↔ n ∉ childNames cs := by
  rw [getChild, List.find?_eq_none, childNames, List.mem_map]
  simp only [decide_eq_true_eq, not_exists, not_and]

theorem mem_childNames_iff {cs : List (Nec × Elem)} {n : Name} : n ∈ childNames cs ↔ getChild cs n ≠ none := by
  rw [ne_eq, getChild_none_iff, Decidable.not_not]

theorem getChild_some_name {cs : List (Nec × Elem)} {n c} (h : getChild cs n = some c) : c.2.name = n := by
  have := List.find?_some h; simpa using this

theorem getChild_some_mem {cs : List (Nec × Elem)} {n c} (h : getChild cs n = some c) : c ∈ cs :=
  List.mem_of_find?_eq_some h

theorem getChild_cons (c : Nec × Elem) (cs n) :
    getChild (c :: cs) n = if c.2.name = n then some c else getChild cs n := by
  by_cases h : c.2.name = n
  · rw [if_pos h]; exact List.find?_cons_of_pos (l := cs) (decide_eq_true h)
  · rw [if_neg h]; exact List.find?_cons_of_neg (l := cs) (by rw [decide_eq_true_eq]; exact h)

theorem getChild_append {cs ds : List (Nec × Elem)} {n} : getChild (cs ++ ds) n = (getChild cs n).or (getChild ds n) := by
  simp [getChild, List.find?_append]

theorem getChild_of_mem_nodup {cs : List (Nec × Elem)} (h : (childNames cs).Nodup) {c} (hc : c ∈ cs) :
    getChild cs c.2.name = some c :=
  find?_of_nodup_map (fun d : Nec × Elem => d.2.name) cs h c hc

theorem getChild_eq_some_iff {cs : List (Nec × Elem)} (h : (childNames cs).Nodup) {n : Name} {c : Nec × Elem} :
    getChild cs n = some c ↔ c ∈ cs ∧ c.2.name = n :=
  ⟨fun hc => ⟨getChild_some_mem hc, getChild_some_name hc⟩, fun ⟨hm, hn⟩ => hn ▸ getChild_of_mem_nodup h hm⟩

/-! ### `eraseChild` -/

theorem eraseChild_eq_eraseP (cs : List (Nec × Elem)) (n : Name) : eraseChild cs n = cs.eraseP (fun c => c.2.name = n) := by
  induction cs with
  | nil => rfl
  | cons c cs ih => by_cases h : c.2.name = n <;> simp [eraseChild, h, ih]

theorem eraseChild_sublist (cs : List (Nec × Elem)) (n : Name) : (eraseChild cs n).Sublist cs :=
  eraseChild_eq_eraseP cs n ▸ List.eraseP_sublist

theorem mem_eraseChild {cs : List (Nec × Elem)} {n : Name} {c} (h : c ∈ eraseChild cs n) : c ∈ cs :=
  (eraseChild_sublist cs n).subset h

theorem childNames_eraseChild_sub {cs : List (Nec × Elem)} {n m} (h : m ∈ childNames (eraseChild cs n)) : m ∈ childNames cs :=
  ((eraseChild_sublist cs n).map _).subset h

theorem getChild_eraseChild_ne {cs : List (Nec × Elem)} {n m} (h : m ≠ n) : getChild (eraseChild cs n) m = getChild cs m := by
  induction cs with
  | nil => rfl
  | cons c cs ih =>
    unfold eraseChild
    split
    · rename_i hc; rw [getChild_cons]; simp [hc, Ne.symm h]
    · rw [getChild_cons, getChild_cons, ih]

theorem getChild_eraseChild_self {cs : List (Nec × Elem)} {n} (h : (childNames cs).Nodup) : getChild (eraseChild cs n) n = none := by
  induction cs with
  | nil => rfl
  | cons c cs ih =>
    simp only [childNames, List.map_cons, List.nodup_cons] at h
    unfold eraseChild
    split
    · rename_i hc; rw [getChild_none_iff]; rw [← hc]; exact h.1
    · rename_i hc; rw [getChild_cons]; simp [hc, ih h.2]

theorem nodup_eraseChild {cs : List (Nec × Elem)} {n} (h : (childNames cs).Nodup) : (childNames (eraseChild cs n)).Nodup :=
  h.sublist ((eraseChild_sublist cs n).map _)

theorem eraseChild_of_absent {cs : List (Nec × Elem)} {n} (h : getChild cs n = none) : eraseChild cs n = cs := by
  rw [eraseChild_eq_eraseP]; exact List.eraseP_of_forall_not (List.find?_eq_none.mp h)

theorem length_eraseChild {cs : List (Nec × Elem)} {n c} (h : getChild cs n = some c) : (eraseChild cs n).length + 1 = cs.length := by
  have hm := getChild_some_mem h
  rw [eraseChild_eq_eraseP, List.length_eraseP_of_mem hm (decide_eq_true (getChild_some_name h))]
  exact Nat.sub_add_cancel (List.length_pos_of_mem hm)

/-! ### `addUnique`, `addUniqueChild` -/

theorem addUnique_of_absent {cs : List (Nec × Elem)} {d : Nec × Elem} (h : getChild cs d.2.name = none) :
    addUnique cs d = cs ++ [d] := by
  rw [addUnique, if_neg]
  intro hany
  obtain ⟨c, hc, hcd⟩ := List.any_eq_true.mp hany
  exact getChild_none_iff.mp h ((of_decide_eq_true hcd).2 ▸ List.mem_map_of_mem (f := fun x => x.2.name) hc)

theorem addUniqueChild_of_absent {cs : List (Nec × Elem)} {c : Elem} (h : getChild cs c.name = none) :
    addUniqueChild cs c = cs ++ [(.man, withPosition cs c)] := by
  unfold addUniqueChild
  simp only [h, Option.isSome_none, Bool.false_eq_true, if_false]
  exact addUnique_of_absent (d := (.man, withPosition cs c)) (by simpa using h)

theorem addUniqueChild_of_present {cs : List (Nec × Elem)} {c : Elem} (h : (getChild cs c.name).isSome) :
    addUniqueChild cs c = cs := by
  unfold addUniqueChild; simp [h]

theorem addUnique_ne_nil (cs : List (Nec × Elem)) (d : Nec × Elem) : addUnique cs d ≠ [] := by
  unfold addUnique
  by_cases h : (cs.any fun c => decide (c.1 = d.1 ∧ c.2.name = d.2.name)) = true
  · rw [if_pos h]; intro e; rw [e] at h; simp at h
  · rw [if_neg h]; simp

theorem addUniqueChild_ne_nil (cs : List (Nec × Elem)) (c : Elem) : addUniqueChild cs c ≠ [] := by
  unfold addUniqueChild
  by_cases h : (getChild cs c.name).isSome = true
  · rw [if_pos h]; intro e; subst e; simp [getChild] at h
  · rw [if_neg h]; exact addUnique_ne_nil _ _

theorem mem_addUniqueChild {cs : List (Nec × Elem)} {c : Elem} {d} (h : d ∈ addUniqueChild cs c) :
    d ∈ cs ∨ d = (.man, withPosition cs c) := by
  cases hg : getChild cs c.name with
  | some x => exact Or.inl (by rwa [addUniqueChild_of_present (by rw [hg]; rfl)] at h)
  | none => simpa [addUniqueChild_of_absent hg] using h

theorem getChild_singleton (d : Nec × Elem) (n : Name) : getChild [d] n = if d.2.name = n then some d else none := by
  rw [getChild_cons]; rfl

theorem getChild_addUniqueChild_self {cs : List (Nec × Elem)} {c : Elem} (h : getChild cs c.name = none) :
    getChild (addUniqueChild cs c) c.name = some (.man, withPosition cs c) := by
  rw [addUniqueChild_of_absent h, getChild_append, h, getChild_singleton]; simp

theorem getChild_addUniqueChild_ne {cs : List (Nec × Elem)} {c : Elem} {m} (h : m ≠ c.name) :
    getChild (addUniqueChild cs c) m = getChild cs m := by
  cases hc : getChild cs c.name with
  | some d => rw [addUniqueChild_of_present (by simp [hc])]
  | none =>
    rw [addUniqueChild_of_absent hc, getChild_append, getChild_singleton]
    simp [Ne.symm h]

theorem childNames_nodup_snoc {cs : List (Nec × Elem)} {d : Nec × Elem} (h : (childNames cs).Nodup) (hd : getChild cs d.2.name = none) :
    (childNames (cs ++ [d])).Nodup := by
  rw [childNames, List.map_append, List.map_cons, List.map_nil, (List.perm_append_singleton _ _).nodup_iff, List.nodup_cons]
  exact ⟨getChild_none_iff.mp hd, h⟩

theorem nodup_addUniqueChild {cs : List (Nec × Elem)} {c : Elem} (h : (childNames cs).Nodup) :
    (childNames (addUniqueChild cs c)).Nodup := by
  cases hc : getChild cs c.name with
  | some d => rw [addUniqueChild_of_present (by simp [hc])]; exact h
  | none => rw [addUniqueChild_of_absent hc]; exact childNames_nodup_snoc h (by simpa using hc)

/-! ### `setChildOptional` -/

theorem setChildOptional_of_present {cs : List (Nec × Elem)} {n c} (hn : (childNames cs).Nodup) (h : getChild cs n = some c) :
    setChildOptional cs n = eraseChild cs n ++ [(.opt, c.2)] := by
  unfold setChildOptional
  rw [h]
  apply addUnique_of_absent
  simp only [getChild_some_name h]
  exact getChild_eraseChild_self hn

theorem setChildOptional_of_absent {cs : List (Nec × Elem)} {n} (h : getChild cs n = none) : setChildOptional cs n = cs := by
  unfold setChildOptional; rw [h]

def demote (c : Option (Nec × Elem)) : Option (Nec × Elem) := c.map (fun c => (.opt, c.2))

theorem demote_demote (c) : demote (demote c) = demote c := by cases c <;> rfl
theorem demote_ne_none (x : Option (Nec × Elem)) : demote x ≠ none ↔ x ≠ none := by cases x <;> simp [demote]

theorem getChild_setChildOptional (cs : List (Nec × Elem)) (n m : Name) (h : (childNames cs).Nodup) :
    getChild (setChildOptional cs n) m = if m = n then demote (getChild cs m) else getChild cs m := by
  cases hc : getChild cs n with
  | none =>
    rw [setChildOptional_of_absent hc]
    split
    · rename_i e; subst e; simp [hc, demote]
    · rfl
  | some c =>
    rw [setChildOptional_of_present h hc, getChild_append, getChild_singleton]
    have hcn := getChild_some_name hc
    by_cases e : m = n
    · subst e; simp [getChild_eraseChild_self h, hc, hcn, demote]
    · simp only [e, if_false, getChild_eraseChild_ne e]
      have : c.2.name ≠ m := by rw [hcn]; exact Ne.symm e
      simp [this]

theorem nodup_setChildOptional {cs : List (Nec × Elem)} {n} (h : (childNames cs).Nodup) : (childNames (setChildOptional cs n)).Nodup := by
  cases hc : getChild cs n with
  | none => rw [setChildOptional_of_absent hc]; exact h
  | some c =>
    rw [setChildOptional_of_present h hc]
    exact childNames_nodup_snoc (nodup_eraseChild h) (by rw [getChild_some_name hc]; exact getChild_eraseChild_self h)

theorem length_setChildOptional {cs : List (Nec × Elem)} (h : (childNames cs).Nodup) (n : Name) :
    (setChildOptional cs n).length = cs.length := by
  cases hc : getChild cs n with
  | none => rw [setChildOptional_of_absent hc]
  | some c => rw [setChildOptional_of_present h hc, List.length_append, List.length_singleton, length_eraseChild hc]

theorem mem_childNames_setChildOptional {cs : List (Nec × Elem)} {n} (h : (childNames cs).Nodup) (m : Name) :
    m ∈ childNames (setChildOptional cs n) ↔ m ∈ childNames cs := by
  rw [mem_childNames_iff, mem_childNames_iff, getChild_setChildOptional _ _ _ h]
  split
  · exact demote_ne_none _
  · rfl

/-- `set_child_optional` changes tags and order, not the children themselves -/
theorem mem_setChildOptional {cs : List (Nec × Elem)} {n : Name} {d} (h : d ∈ setChildOptional cs n) :
    ∃ d' ∈ cs, d.2 = d'.2 := by
  unfold setChildOptional at h
  cases hg : getChild cs n with
  | none => rw [hg] at h; exact ⟨d, h, rfl⟩
  | some c =>
    rw [hg] at h
    simp only [addUnique] at h
    split at h
    · exact ⟨d, mem_eraseChild h, rfl⟩
    · rcases List.mem_append.mp h with h | h
      · exact ⟨d, mem_eraseChild h, rfl⟩
      · exact ⟨c, getChild_some_mem hg, by rw [List.mem_singleton.mp h]⟩

/-! ### `setChildOptional` folded over a list of names (what `tag_optional_children` does) -/

theorem fold_setChildOptional_nodup (ns : List Name) (cs : List (Nec × Elem)) (h : (childNames cs).Nodup) :
    (childNames (ns.foldl setChildOptional cs)).Nodup :=
  List.foldlRecOn ns (motive := fun cs' => (childNames cs').Nodup) _ h fun _ h _ _ => nodup_setChildOptional h

theorem length_fold_setChildOptional (ns : List Name) {cs : List (Nec × Elem)} (h : (childNames cs).Nodup) :
    (ns.foldl setChildOptional cs).length = cs.length :=
  (List.foldlRecOn ns (motive := fun cs' => (childNames cs').Nodup ∧ cs'.length = cs.length) _ ⟨h, rfl⟩
    fun _ h n _ => ⟨nodup_setChildOptional h.1, (length_setChildOptional h.1 n).trans h.2⟩).2

theorem fold_setChildOptional_getChild (ns : List Name) (cs : List (Nec × Elem)) (m : Name) (h : (childNames cs).Nodup) :
    getChild (ns.foldl setChildOptional cs) m = if m ∈ ns then demote (getChild cs m) else getChild cs m := by
  induction ns generalizing cs with
  | nil => simp
  | cons n ns ih =>
    simp only [List.foldl_cons]
    rw [ih _ (nodup_setChildOptional h), getChild_setChildOptional _ _ _ h]
    by_cases e : m = n
    · subst e; simp [demote_demote]
    · simp [e]

theorem mem_fold_setChildOptional (ns : List Name) {cs : List (Nec × Elem)} {d} (h : d ∈ ns.foldl setChildOptional cs) :
    ∃ d' ∈ cs, d.2 = d'.2 := by
  induction ns generalizing cs with
  | nil => exact ⟨d, h, rfl⟩
  | cons n ns ih =>
    obtain ⟨d1, hd1, e1⟩ := ih h
    obtain ⟨d2, hd2, e2⟩ := mem_setChildOptional hd1
    exact ⟨d2, hd2, e1.trans e2⟩

end Xsg
