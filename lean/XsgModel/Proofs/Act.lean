import XsgModel.Model.Checks
/-!
What one reader event means to `build_struct`.  `step`, `firstFault` and `hasElement` all begin by decoding the
event the same way (is the name UTF-8, do the attribute keys decode, which of the eight event kinds is it) and
only then differ.  `Ev.act` is that decoding; `step_run`, `firstFault_cons` and `hasElement_cons` restate the three
functions over it, so that an induction over an event stream has seven cases and no nested ones.
Before that the plain facts on `runEvents` (a fold of `step`); after it what decoding yields: the keys of an
attribute list without errors (`attrKeys_ok`), and which errors a fault can be (`attrKeys_error`, `act_fault`).
-/
namespace Xsg

theorem runEvents_cons (s : St) (e : Ev) (es : List Ev) : runEvents s (e :: es) = runEvents (step s e) es := rfl

theorem runEvents_append (s : St) (a b : List Ev) : runEvents s (a ++ b) = runEvents (runEvents s a) b := by
  simp [runEvents, List.foldl_append]

theorem runEvents_done (w : Elem) (evs : List Ev) : runEvents (.done w) evs = .done w := by
  induction evs with
  | nil => rfl
  | cons e es ih => simpa [runEvents, step] using ih

theorem runEvents_fail (e : PErr) (evs : List Ev) : runEvents (.fail e) evs = .fail e := by
  induction evs with
  | nil => rfl
  | cons x es ih => simpa [runEvents, step] using ih

inductive Act where
  | fault (e : PErr)
  | push (name : Name) (keys : List Name)   -- `Start`
  | leaf (name : Name) (keys : List Name)   -- `Empty`
  | pop                                     -- `End`
  | text                                    -- `Text`, `CData`
  | skip
  | stop                                    -- `Eof`

def tagAct (mk : Name → List Name → Act) : U8 → List AttrItem → Act
  | .bad m, _ => .fault (.utf8 m)
  | .ok n, as => match attrKeys as with
    | .error e => .fault e
    | .ok ks => mk n ks

def Ev.act : Ev → Act
  | .start n as => tagAct .push n as
  | .empty n as => tagAct .leaf n as
  | .endTag => .pop
  | .text (.ok _) => .text
  | .cdata (.ok _) => .text
  | .text (.bad m) => .fault (.utf8 m)
  | .cdata (.bad m) => .fault (.utf8 m)
  | .ignored => .skip
  | .eof => .stop
  | .err p m => .fault (.quickXml p m)

/-- `step` on a running machine, by what the event means -/
def stepAct (top : Frame) (rest : List Frame) : Act → St
  | .fault e => .fail e
  | .push n ks =>
    .run (⟨(openTag top n ks).2, [], (getChild top.elem.children n).map fun c => snapshot c.2⟩ :: (openTag top n ks).1 :: rest)
  | .leaf n ks => .run (closeTag (openTag top n ks).1 (openTag top n ks).2 (some []) :: rest)
  | .pop => match rest with
    | [] => .done top.elem
    | parent :: rest' => .run (closeTag parent top.elem top.snap :: rest')
  | .text => .run ({ top with elem := top.elem.setText true } :: rest)
  | .skip => .run (top :: rest)
  | .stop => .done (unwind top rest)

theorem step_run (top : Frame) (rest : List Frame) (ev : Ev) : step (.run (top :: rest)) ev = stepAct top rest ev.act := by
  cases ev with
  | start nm as | empty nm as =>
    cases nm with
    | bad m => rfl
    | ok n => simp only [step, Ev.act, tagAct]; cases attrKeys as <;> rfl
  | text u | cdata u => cases u <;> rfl
  | _ => rfl

theorem firstFault_cons (d : Nat) (ev : Ev) (rest : List Ev) :
    firstFault d (ev :: rest) = match ev.act with
      | .fault e => some e
      | .push _ _ => firstFault (d + 1) rest
      | .pop => if d = 0 then none else firstFault (d - 1) rest
      | .stop => none
      | _ => firstFault d rest := by
  cases ev with
  | start nm as | empty nm as =>
    cases nm with
    | bad m => rfl
    | ok n => simp only [firstFault, Ev.act, tagAct]; cases attrKeys as <;> rfl
  | text u | cdata u => cases u <;> rfl
  | _ => rfl

theorem hasElement_cons (d : Nat) (ev : Ev) (rest : List Ev) :
    hasElement d (ev :: rest) = match ev.act with
      | .push _ _ => true
      | .leaf _ _ => true
      | .pop => if d = 0 then false else hasElement (d - 1) rest
      | .fault _ => false
      | .stop => false
      | _ => hasElement d rest := by
  cases ev with
  | start nm as | empty nm as =>
    cases nm with
    | bad m => rfl
    | ok n => simp only [hasElement, Ev.act, tagAct]; cases attrKeys as <;> rfl
  | text u | cdata u => cases u <;> rfl
  | _ => rfl

theorem attrKeys_ok (as : List Name) : attrKeys (as.map fun a => AttrItem.key (.ok a)) = .ok as := by
  induction as with
  | nil => rfl
  | cons a as ih => simp [attrKeys, ih]

theorem tagAct_ok (mk : Name → List Name → Act) (k : Name) (as : List Name) :
    tagAct mk (.ok k) (as.map fun a => AttrItem.key (.ok a)) = mk k as := by
  simp only [tagAct, attrKeys_ok]

theorem attrKeys_error {as : List AttrItem} {e : PErr} (h : attrKeys as = .error e) : (∃ m, e = .utf8 m) ∨ ∃ m, e = .attr m := by
  induction as with
  | nil => cases h
  | cons a as ih =>
    match a with
    | .bad m => exact Or.inr ⟨m, by simpa [attrKeys] using h.symm⟩
    | .key (.bad m) => exact Or.inl ⟨m, by simpa [attrKeys] using h.symm⟩
    | .key (.ok k) =>
      simp only [attrKeys] at h
      cases hk : attrKeys as with
      | ok ks => rw [hk] at h; cases h
      | error e' => rw [hk] at h; cases h; exact ih hk

theorem act_fault {ev : Ev} {e : PErr} (h : ev.act = .fault e) :
    (∃ m, e = .utf8 m) ∨ (∃ m, e = .attr m) ∨ ∃ p m, e = .quickXml p m ∧ ev = .err p m := by
  have tag : ∀ mk nm as, (∀ n ks, mk n ks ≠ Act.fault e) → tagAct mk nm as = .fault e →
      (∃ m, e = .utf8 m) ∨ ∃ m, e = .attr m := by
    intro mk nm as hmk h
    match nm with
    | .bad m => cases h; exact Or.inl ⟨m, rfl⟩
    | .ok n =>
      simp only [tagAct] at h
      cases hk : attrKeys as with
      | ok ks => rw [hk] at h; exact absurd h (hmk n ks)
      | error e' => rw [hk] at h; cases h; exact attrKeys_error hk
  match ev with
  | .start nm as => exact (tag _ nm as (fun _ _ => Act.noConfusion) h).imp_right Or.inl
  | .empty nm as => exact (tag _ nm as (fun _ _ => Act.noConfusion) h).imp_right Or.inl
  | .text (.bad m) | .cdata (.bad m) => cases h; exact Or.inl ⟨m, rfl⟩
  | .err p m => cases h; exact Or.inr (Or.inr ⟨p, m, rfl, rfl⟩)

theorem firstFault_mem {evs : List Ev} {d : Nat} {e : PErr} (h : firstFault d evs = some e) : ∃ ev ∈ evs, ev.act = .fault e := by
  induction evs generalizing d with
  | nil => cases h
  | cons ev evs ih =>
    have lift : ∀ d', firstFault d' evs = some e → ∃ ev' ∈ ev :: evs, ev'.act = .fault e :=
      fun d' h' => (ih h').imp fun _ h => ⟨List.mem_cons_of_mem _ h.1, h.2⟩
    rw [firstFault_cons] at h
    revert h
    cases hact : ev.act <;> dsimp only <;> intro h
    case fault e' => cases h; exact ⟨ev, List.mem_cons_self, hact⟩
    case pop => split at h; cases h; exact lift _ h
    case stop => cases h
    all_goals exact lift _ h

end Xsg
