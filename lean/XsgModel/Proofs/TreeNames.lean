import XsgModel.Model.De
import XsgModel.Proofs.History
import XsgModel.Proofs.IdentLegal
import XsgModel.Proofs.Walk
/-!
# Names of a parsed tree are names of the documents

`TreeOK p e`: at every position of the tree the element name and the attribute names satisfy `p`, and the
attribute names are pairwise distinct.  For a tree that `Matches` documents whose names all satisfy `p`
(`Node.allNames p`) this holds (`matches_treeOK`), and it is inherited by every entry of the walk together with
the names on the entry's path (`treeOK_walk`); with `Elem.Inv` for the child names, that is `EntryOK` at every entry
(`entry_conditions`).  This turns the per-entry side conditions of the C04 theorems into
one condition on the documents.
-/
namespace Xsg

/-- distinct attribute names are part of `TreeOK`, distinct child names are not: those are `Elem.Inv`, and the two meet
in `entry_conditions`; `names l` is the list of the second components (Proofs/Necessity.lean) -/
inductive TreeOK (p : Name → Bool) : Elem → Prop
  | intro (e : Elem) (hn : p e.name = true) (ha : ∀ a ∈ names e.attrs, p a = true) (hnd : (names e.attrs).Nodup)
      (hc : ∀ c ∈ e.children, TreeOK p c.2) : TreeOK p e

theorem TreeOK.name {p e} (h : TreeOK p e) : p e.name = true := by cases h; assumption
theorem TreeOK.attrs {p e} (h : TreeOK p e) : ∀ a ∈ names e.attrs, p a = true := by cases h; assumption
theorem TreeOK.nodup {p e} (h : TreeOK p e) : (names e.attrs).Nodup := by cases h; assumption
theorem TreeOK.kids {p e} (h : TreeOK p e) : ∀ c ∈ e.children, TreeOK p c.2 := by cases h; assumption

theorem TreeOK.congr {p : Name → Bool} {e e' : Elem} (h : TreeOK p e) (hn : e'.name = e.name) (ha : e'.attrs = e.attrs)
    (hc : e'.children = e.children) : TreeOK p e' :=
  TreeOK.intro e' (by rw [hn]; exact h.name) (by rw [ha]; exact h.attrs) (by rw [ha]; exact h.nodup) (by rw [hc]; exact h.kids)

theorem TreeOK.setKids {p : Name → Bool} {e : Elem} (h : TreeOK p e) (cs : List (Nec × Elem)) (hcs : ∀ c ∈ cs, TreeOK p c.2) :
    TreeOK p (e.setChildren cs) :=
  TreeOK.intro _ (by simpa using h.name) (by cases e; exact h.attrs) (by cases e; exact h.nodup) (by simpa using hcs)

theorem goItems_eq (p : Name → Bool) : ∀ is : Items, Node.allNames.goItems p is = is.elems.all (Node.allNames p)
  | .nil => rfl
  | .elem n r => by simp [Node.allNames.goItems, Items.elems, goItems_eq p r]
  | .text _ r | .other r => goItems_eq p r

theorem allNames_iff (p : Name → Bool) (o : Node) : o.allNames p = true ↔
    p o.name = true ∧ (∀ a ∈ o.attrs, p a = true) ∧ ∀ n ∈ o.items.elems, n.allNames p = true := by
  cases o with
  | mk nm as sc items => simp only [Node.allNames, goItems_eq, Bool.and_eq_true, List.all_eq_true, and_assoc]; rfl

theorem matches_treeOK (p : Name → Bool) {e : Elem} {occs : List Node} (h : Matches e occs) :
    (∀ o ∈ occs, o.allNames p = true) → p e.name = true → TreeOK p e := by
  induction h with
  | intro e occs htext hattrs hattr_man hnd hnone hman hmulti hlen hpos hsub ih =>
    intro hall hname
    refine TreeOK.intro e hname (fun a ha => ?_) (hattrs ▸ nodup_dedupNames _) fun c hc => ?_
    · rw [hattrs, mem_dedupNames, List.mem_flatMap] at ha
      obtain ⟨o, ho, hao⟩ := ha
      exact ((allNames_iff p o).mp (hall o ho)).2.1 a hao
    · have hg : getChild e.children c.2.name = some (c.1, c.2) := getChild_of_mem_nodup hnd hc
      -- the occurrences of the child carry its name, and there is one
      have hkids : ∀ n ∈ occs.flatMap (Node.named c.2.name), n.allNames p = true ∧ n.name = c.2.name := fun n hn => by
        obtain ⟨o, ho, hno⟩ := List.mem_flatMap.mp hn
        rw [Node.named, Items.named_eq, List.mem_filter, decide_eq_true_eq] at hno
        exact ⟨((allNames_iff p o).mp (hall o ho)).2.2 n hno.1, hno.2⟩
      obtain ⟨n, hn⟩ := List.exists_mem_of_ne_nil _ (hsub _ _ _ hg).ne_nil
      exact ih _ _ _ hg (fun m hm => (hkids m hm).1) ((hkids n hn).2 ▸ ((allNames_iff p n).mp (hkids n hn).1).1)

theorem treeOK_walk (p : Name → Bool) (s : SortBy) (e : Elem) (he : TreeOK p e) (path trace : List Name) (en : Entry)
    (hpath : ∀ x ∈ path, p x = true) (h : en ∈ walk s path trace e) : TreeOK p en.elem ∧ ∀ x ∈ en.path, p x = true := by
  have hext : ∀ {path : List Name} {e : Elem}, TreeOK p e → (∀ x ∈ path, p x = true) → ∀ x ∈ path ++ [e.name], p x = true :=
    fun he hpath x hx => (List.mem_append.mp hx).elim (hpath x) fun hx => List.mem_singleton.mp hx ▸ he.name
  induction h using walk_induction with
  | root => exact ⟨he, hext he hpath⟩
  | child _ _ _ c _ hc _ _ ih => exact ih (he.kids c hc) (hext he hpath)

/-- the side conditions on one entry from two conditions on the tree: distinct child names from `Elem.Inv`, the rest
from `TreeOK` -/
theorem entry_conditions (p : Name → Bool) (s : SortBy) (t : Elem) (ht : t.Inv = true) (hok : TreeOK p t) :
    ∀ en ∈ walk s [] [] t, EntryOK (p · = true) en ∧ ∀ x ∈ en.path, p x = true := by
  intro en hen
  obtain ⟨htree, hpath⟩ := treeOK_walk p s t hok [] [] en (by simp) hen
  refine ⟨⟨htree.name, ?_, fun c hc => (htree.kids c hc).name, htree.nodup, Inv_nodup (walk_inv s t ht [] [] en hen)⟩, hpath⟩
  intro a ha; exact htree.attrs a.2 (by simp only [names, List.mem_map]; exact ⟨a, ha, rfl⟩)

theorem parse_treeOK (p : Name → Bool) (H : List Doc) (h : historyOk H) (hp : ∀ d ∈ H, d.root.allNames p = true) :
    ∃ t, parseHistory (H.map Doc.events) = .ok t ∧ Matches t (H.map (·.root)) ∧ TreeOK p t := by
  obtain ⟨t, ht, hm, hname⟩ := parse_history H h
  refine ⟨t, ht, hm, matches_treeOK p hm ?_ ?_⟩
  · intro o ho
    rw [List.mem_map] at ho
    obtain ⟨d, hd, rfl⟩ := ho
    exact hp d hd
  · obtain ⟨d, hd⟩ := List.exists_mem_of_ne_nil _ h.1
    exact hname d hd ▸ ((allNames_iff p _).mp (hp d hd)).1

end Xsg
