import XsgModel.Model.Checks
import XsgModel.Proofs.IdentLegal
import XsgModel.Proofs.ReadPrint
/-! characters that cannot occur in what the renderer prints between its own punctuation (identifiers, struct names,
local parts of XML names), so that a rendered struct is `StructPrintable` (`structOf_printable`): what
`C04_text_reads_back` needs to apply `readProgram_printAST` -/
namespace Xsg

theorem xidContinue_not_special {c : Char} (h : xidContinue c = true) : c ≠ ':' ∧ c ≠ '\n' ∧ c ≠ '<' ∧ c ≠ '>' := by
  refine ⟨?_, ?_, ?_, ?_⟩ <;> (intro e; subst e; revert h; decide)

theorem legalIdent_chars {n : Name} (h : legalIdent n = true) : ∀ c ∈ n, c ≠ ':' ∧ c ≠ '\n' := fun c hc =>
  have := xidContinue_not_special (List.all_eq_true.mp (legalIdent_all_xid h) c hc)
  ⟨this.1, this.2.1⟩

theorem all_alnum_plain {n : Name} (hn : n.all isAlnum = true) : NoNL n ∧ PlainBase n :=
  have h := fun c hc => xidContinue_not_special (xidContinue_of_alnum (List.all_eq_true.mp hn c hc))
  ⟨fun hm => (h _ hm).2.1 rfl, fun hm => (h _ hm).2.2.1 rfl, fun hm => (h _ hm).2.2.2 rfl⟩

theorem nameOK_nonl {n : Name} (h : nameOK n = true) : NoNL n := by
  simp only [nameOK, Bool.and_eq_true] at h
  intro hm
  have := (List.all_eq_true.mp h.1) '\n' hm
  revert this; decide

theorem afterColon_sub (n r : Name) (h : afterColon n = some r) : ∀ c ∈ r, c ∈ n := by
  induction n with
  | nil => simp [afterColon] at h
  | cons x xs ih =>
    simp only [afterColon] at h
    split at h
    · simp only [Option.some.injEq] at h; subst h; intro c hc; exact List.mem_cons_of_mem _ hc
    · intro c hc; exact List.mem_cons_of_mem _ (ih h c hc)

theorem removeNamespace_sub (n : Name) : ∀ c ∈ removeNamespace n, c ∈ n := by
  unfold removeNamespace
  cases h : afterColon n with
  | none => intro c hc; exact hc
  | some r => intro c hc; exact afterColon_sub n r h c hc

theorem attrLocal_nonl {a : Name} (h : NoNL a) : NoNL (attrLocal a) := by
  unfold attrLocal
  split
  · exact h
  · intro hm; exact h (removeNamespace_sub a _ hm)

/-- a rendered struct can be read back if its name and the types of its fields are alphanumeric: the option strings hold no
line break by `ho`, the identifiers are legal, and the renames are built from the option strings and (parts of) XML names -/
theorem structOf_printable (o : Options) (H : Name → Option Nat) (names' : List (List Name × Name)) (en : Entry)
    (ho : NoNL o.derive ∧ NoNL o.attrPrefix ∧ NoNL o.textIdent) (he : EntryOK (nameOK · = true) en)
    (hname : (structOf o H names' en).name.all isAlnum = true)
    (hbase : ∀ f ∈ (structOf o H names' en).fields, f.base.all isAlnum = true) :
    StructPrintable (structOf o H names' en) := by
  have hlegal := fields_legal o H names' en (he.mono fun _ => nameOK_letterFirst)
  refine ⟨?_, (all_alnum_plain hname).1, ?_⟩
  · intro d hd
    exact Option.some.inj (Option.ite_none_left_eq_some.mp hd).2 ▸ ho.1
  · intro f hf
    have hb := all_alnum_plain (hbase f hf)
    have hident := legalIdent_chars (hlegal f hf)
    refine ⟨?_, fun hm => (hident _ hm).1 rfl, fun hm => (hident _ hm).2 rfl, hb.2, hb.1⟩
    intro r hr
    rcases mem_structOf_fields.mp hf with ⟨a, ham, rfl⟩ | ⟨_, rfl⟩ | ⟨c, hcm, rfl⟩
    · rw [attrField_rename_eq o _ a r hr]
      exact NoNL_append.mpr ⟨ho.2.1, attrLocal_nonl (nameOK_nonl (he.attrs a ham))⟩
    · exact Option.some.inj (hr : some o.textIdent = some r) ▸ ho.2.2
    · rw [childField_rename_eq _ _ _ _ _ c r hr]
      exact fun hm => nameOK_nonl (he.kids c hcm) (removeNamespace_sub _ _ hm)

end Xsg
