import XsgModel.Proofs.DeserQuick
import XsgModel.Proofs.DeserSxr
import XsgModel.Proofs.History
import XsgModel.Proofs.SpecOf
import XsgModel.Proofs.StructCount
/-!
# The side condition of C02 stated on the documents; `from_str` on a history

`Elem.keysOK` (what `deNode_ok` needs of the tree) is the same as `Schema.keysOK` of the tree's schema, and that
schema is `specOfDocs` of the document roots (`matches_abs_eq_specOfDocs`).  So the condition is a decidable predicate of
the documents: per position of the merged history, the attribute names, and the child names, are pairwise
distinct after removing namespace prefixes, and no child's local name is `$text` or begins with `@`.  The same for
`sxrOK` (C13).

`deDoc_gen` takes `deNode_gen` from one element to a history: the tree parsed from the history, its schema, and
`from_str` into the first rendered struct on every source document.
-/
namespace Xsg

/-- a predicate that asks something of every position has the same value on a tree and on its schema: `abs` keeps the
attributes and permutes the children (`abs_kids_perm`), and what is asked of one position (`loc`: of its attributes and
its child names) does not depend on the order of the children -/
theorem abs_positions (P : Schema → Bool) (Q : Elem → Bool) (loc : List (Nec × Name) → List Name → Bool)
    (hloc : ∀ as l l', l.Perm l' → loc as l = loc as l')
    (hP : ∀ t as ks, P (.mk t as ks) = (loc as (ks.map (·.1)) && ks.all (fun k => P k.2.2.2)))
    (hQ : ∀ e, Q e = (loc e.attrs (childNames e.children) && e.children.all (fun c => Q c.2))) (e : Elem) :
    P e.abs = Q e := by
  induction e using Elem.ind with
  | step e ih =>
    cases e with
    | mk n t s cnt as cs p =>
      have hp := abs_kids_perm cs
      rw [Elem.abs, hP, hQ, hp.all_eq, hloc _ _ _ (hp.map (·.1))]
      simp only [List.map_map, List.all_map, Function.comp_def, childNames, Elem.attrs, Elem.children]
      congr 1
      exact all_congr_mem fun c hc => ih c hc

def Schema.keysOK : Schema → Bool
  | .mk _ as ks =>
    decide ((as.map fun a => attrLocal a.2).Nodup) && decide ((ks.map fun k => removeNamespace k.1).Nodup) &&
    ks.all (fun k => childKeyOK k.1) && kidsOK ks
where
  kidsOK : List (Name × Nec × Bool × Schema) → Bool
    | [] => true
    | (_, _, _, s) :: rest => s.keysOK && kidsOK rest

theorem Schema.kidsOK_eq (ks : List (Name × Nec × Bool × Schema)) :
    Schema.keysOK.kidsOK ks = ks.all (fun k => k.2.2.2.keysOK) := all_of_rec rfl (fun _ _ => rfl) ks

theorem abs_keysOK (e : Elem) : e.abs.keysOK = e.keysOK :=
  abs_positions _ _
    (fun as l => decide ((as.map fun a => attrLocal a.2).Nodup) && decide ((l.map removeNamespace).Nodup) && l.all childKeyOK)
    (fun as l l' h => by rw [decide_eq_decide.mpr (h.map removeNamespace).nodup_iff, h.all_eq])
    (fun t as ks => by simp only [Schema.keysOK, Schema.kidsOK_eq, List.map_map, List.all_map, Function.comp_def])
    (fun e => by cases e; simp only [Elem.keysOK, Elem.keysKids_eq, childNames, List.map_map, List.all_map, Function.comp_def,
      Elem.attrs, Elem.children]; rfl) e

def Schema.sxrOK : Schema → Bool
  | .mk _ as ks =>
    as.all (fun a => plainName a.2) && ks.all (fun k => plainName k.1) && decide ((as.map (·.2)).Nodup) &&
    as.all (fun a => ks.all (fun k => decide (a.2 ≠ k.1))) && kidsOK ks
where
  kidsOK : List (Name × Nec × Bool × Schema) → Bool
    | [] => true
    | (_, _, _, s) :: rest => s.sxrOK && kidsOK rest

theorem Schema.sxrKidsOK_eq (ks : List (Name × Nec × Bool × Schema)) :
    Schema.sxrOK.kidsOK ks = ks.all (fun k => k.2.2.2.sxrOK) := all_of_rec rfl (fun _ _ => rfl) ks

theorem abs_sxrOK (e : Elem) : e.abs.sxrOK = e.sxrOK :=
  abs_positions _ _
    (fun as l => as.all (fun a => plainName a.2) && l.all plainName && decide ((as.map (·.2)).Nodup) &&
      as.all (fun a => l.all (fun k => decide (a.2 ≠ k))))
    (fun as l l' h => by simp only [h.all_eq])
    (fun t as ks => by simp only [Schema.sxrOK, Schema.sxrKidsOK_eq, List.all_map, Function.comp_def])
    (fun e => by cases e; simp only [Elem.sxrOK, Elem.sxrKids_eq, childNames, List.all_map, Function.comp_def,
      Elem.attrs, Elem.children]; rfl) e

/-- for a preset and a deserializer configuration with their side conditions (`Scope`): every history parses to a
tree whose schema is `specOfDocs` of the roots and which admits every root, and `from_str` into the first rendered
struct succeeds on every source document in scope and inside the model; the value holds what the structs have a
place for -/
theorem deDoc_gen {o : Options} {cfg : DeCfg} {fed : Bool} (S : Scope o cfg fed)
    (H : List VDoc) (h : historyOk (H.map VDoc.erase)) :
    ∃ t, parseHistory ((H.map VDoc.erase).map Doc.events) = .ok t ∧
      t.abs = specOfDocs ((H.map VDoc.erase).map (·.root)) ∧ (∀ d ∈ H, Admits t d.root.erase) ∧
      (S.PE t → ∀ deny : Bool, (deny = true → fed = true) → ∀ d ∈ H, S.PN d.root → d.root.inModel cfg = true →
        Yields (deDoc cfg ((renderAST o t).map StructDef.plain) deny d.root) (d.root.kept fed cfg t)) := by
  obtain ⟨t, ht, hm, -⟩ := parse_history _ h
  have hadm : ∀ d ∈ H, Admits t d.root.erase := fun d hd =>
    matches_admits hm _ (List.mem_map_of_mem (List.mem_map_of_mem hd))
  refine ⟨t, ht, matches_abs_eq_specOfDocs hm, hadm, fun hPE deny hdeny d hd hPN hmodel => ?_⟩
  have hinv := hm.inv
  have hok : d.root.erase.ok = true := by
    have := h.2.1 d.erase (List.mem_map_of_mem hd)
    simp only [Doc.ok, VDoc.erase, Bool.and_eq_true] at this
    exact this.1.2
  -- the root's entry heads the walk, so its struct is the first of the program
  have hr : walk o.sort [] [] t = ⟨[t.name], [pascal t.name], t⟩ :: (walk o.sort [] [] t).tail := walk_cons ..
  have := deNode_walk S hinv (fun _ h => findStruct_rendered o t hinv h) (fun _ h => structName_ne_string o t hinv h)
    deny hdeny d.root (en := ⟨[t.name], [pascal t.name], t⟩) (hr ▸ List.mem_cons_self) hPE hPN (hadm d hd) hok hmodel
  rw [renderAST, renderWith, hr] at this ⊢
  exact this

end Xsg
