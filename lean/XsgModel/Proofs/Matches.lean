import XsgModel.Proofs.TagOpt
import XsgModel.Proofs.Necessity
import XsgModel.Proofs.Items
/-! `Matches e occs`: the structure `e` stated as a function of the occurrences `occs` of its position in the documents,
clause by clause and without reference to the parser; `matches_iff` (in `Order`) is the same with the clauses grouped.
Then what follows from the clauses alone: induction over them, unique names at every depth, non-empty occurrences, and
`Matches` at a path -/
namespace Xsg

/-- `e` is exactly the schema determined by the occurrences `occs` of its position (C03, relational form):
text flag, attribute list (in first-appearance order, each name once), necessity of attributes and children,
multiplicity, the position of each child (its index in the order of first appearance), and recursively the children.
The element's own name, position and counters are not mentioned. The clause `hlen` (as many children as names that
appear) is what lets the parser's "next free position = number of children" keep `hpos` (`PosInv.reinsert`). -/
inductive Matches : Elem → List Node → Prop
  | intro (e : Elem) (occs : List Node)
      (htext : e.text = occs.any Node.hasText)
      (hattrs : names e.attrs = dedupNames (occs.flatMap Node.attrs))
      (hattr_man : ∀ a, (Nec.man, a) ∈ e.attrs ↔ ∀ o ∈ occs, a ∈ o.attrs)
      (hnd : (childNames e.children).Nodup)
      (hnone : ∀ k, getChild e.children k = none ↔ ∀ o ∈ occs, o.named k = [])
      (hman : ∀ k nec c, getChild e.children k = some (nec, c) → (nec = .man ↔ ∀ o ∈ occs, o.named k ≠ []))
      (hmulti : ∀ k nec c, getChild e.children k = some (nec, c) → (c.standalone = false ↔ ∃ o ∈ occs, 2 ≤ (o.named k).length))
      (hlen : e.children.length = (orderOf occs).length)
      (hpos : ∀ i k, (orderOf occs)[i]? = some k → ∃ nec c, getChild e.children k = some (nec, c) ∧ c.position = some i)
      (hsub : ∀ k nec c, getChild e.children k = some (nec, c) → Matches c (occs.flatMap (Node.named k)))
      : Matches e occs

theorem Matches.text {e occs} (h : Matches e occs) : e.text = occs.any Node.hasText := by cases h; assumption
theorem Matches.attrs {e occs} (h : Matches e occs) : names e.attrs = dedupNames (occs.flatMap Node.attrs) := by cases h; assumption
theorem Matches.attr_man {e occs} (h : Matches e occs) : ∀ a, (Nec.man, a) ∈ e.attrs ↔ ∀ o ∈ occs, a ∈ o.attrs := by cases h; assumption
theorem Matches.nodup {e occs} (h : Matches e occs) : (childNames e.children).Nodup := by cases h; assumption
theorem Matches.absent_iff {e occs} (h : Matches e occs) : ∀ k, getChild e.children k = none ↔ ∀ o ∈ occs, o.named k = [] := by cases h; assumption
theorem Matches.man_iff {e occs} (h : Matches e occs) : ∀ k nec c, getChild e.children k = some (nec, c) → (nec = .man ↔ ∀ o ∈ occs, o.named k ≠ []) := by cases h; assumption
theorem Matches.multi_iff {e occs} (h : Matches e occs) : ∀ k nec c, getChild e.children k = some (nec, c) → (c.standalone = false ↔ ∃ o ∈ occs, 2 ≤ (o.named k).length) := by cases h; assumption
theorem Matches.length_eq {e occs} (h : Matches e occs) : e.children.length = (orderOf occs).length := by cases h; assumption
theorem Matches.position {e occs} (h : Matches e occs) : ∀ i k, (orderOf occs)[i]? = some k → ∃ nec c, getChild e.children k = some (nec, c) ∧ c.position = some i := by cases h; assumption
theorem Matches.child {e occs} (h : Matches e occs) : ∀ k nec c, getChild e.children k = some (nec, c) → Matches c (occs.flatMap (Node.named k)) := by cases h; assumption

/-- induction over `Matches`: what holds of the stored children, each with its occurrences, holds of the element -/
theorem Matches.induct {motive : ∀ e occs, Matches e occs → Prop}
    (step : ∀ e occs (h : Matches e occs),
      (∀ k nec c (hc : getChild e.children k = some (nec, c)), motive c (occs.flatMap (Node.named k)) (h.child k nec c hc)) →
      motive e occs h)
    {e : Elem} {occs : List Node} (h : Matches e occs) : motive e occs h := by
  induction h with
  | intro e occs htext hattrs hattr_man hnd hnone hman hmulti hlen hpos hsub ih => exact step e occs _ ih

/-- a structure that matches has unique child names at every depth -/
theorem Matches.inv {e : Elem} {occs : List Node} (h : Matches e occs) : e.Inv = true := by
  induction h using Matches.induct with
  | step e occs h ih =>
    exact (Inv_iff e).mpr ⟨h.nodup, fun c hc => ih c.2.name c.1 c.2 (getChild_of_mem_nodup h.nodup hc)⟩

/-- `Matches` looks only at text flag, attributes and children -/
theorem Matches.congr {e e' : Elem} {occs} (h : Matches e occs) (ht : e'.text = e.text) (ha : e'.attrs = e.attrs)
    (hc : e'.children = e.children) : Matches e' occs := by
  refine Matches.intro _ _ (by rw [ht]; exact h.text) (by rw [ha]; exact h.attrs) (by rw [ha]; exact h.attr_man)
    (by rw [hc]; exact h.nodup) (by rw [hc]; exact h.absent_iff) (by rw [hc]; exact h.man_iff) (by rw [hc]; exact h.multi_iff)
    (by rw [hc]; exact h.length_eq) (by rw [hc]; exact h.position) (by rw [hc]; exact h.child)

/-- no element matches the empty list of occurrences: it would have every name as a mandatory attribute -/
theorem Matches.ne_nil {e : Elem} {occs : List Node} (h : Matches e occs) : occs ≠ [] := by
  rintro rfl
  have h1 : e.attrs = [] := by simpa [names, dedupNames] using h.attrs
  have h2 := (h.attr_man []).mpr (by simp)
  rw [h1] at h2; cases h2

theorem Matches.mem_attrs {e occs} (h : Matches e occs) (a : Name) : a ∈ names e.attrs ↔ ∃ o ∈ occs, a ∈ o.attrs := by
  rw [h.attrs, mem_dedupNames, List.mem_flatMap]

theorem Matches.mem_childNames {e occs} (h : Matches e occs) (k : Name) :
    k ∈ childNames e.children ↔ ∃ o ∈ occs, o.named k ≠ [] := by
  rw [mem_childNames_iff, ne_eq, h.absent_iff, Classical.not_forall]
  exact exists_congr fun o => Classical.not_imp

/-- the element found at a path of child names inside a structure that `Matches` a list of occurrences itself `Matches`
the occurrences found at that path: a sub-structure taken out of a parsed structure can be extended like a parsed one -/
theorem Matches.at_path {t occs} (h : Matches t occs) (hocc : occs ≠ []) :
    ∀ (p : List Name) (s : Elem), elemAt p t = some s → Matches s (occsAt p occs) ∧ occsAt p occs ≠ [] := by
  intro p
  induction p generalizing t occs with
  | nil => intro s hs; simp only [elemAt, Option.some.injEq] at hs; subst hs; exact ⟨h, hocc⟩
  | cons k p ih =>
    intro s hs
    simp only [elemAt] at hs
    cases hc : getChild t.children k with
    | none => rw [hc] at hs; cases hs
    | some c =>
      rw [hc] at hs
      obtain ⟨nec, c⟩ := c
      exact ih (h.child k nec c hc) (h.child k nec c hc).ne_nil s hs

end Xsg
