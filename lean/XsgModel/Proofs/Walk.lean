import XsgModel.Proofs.Ops
import XsgModel.Proofs.Sort
/-! the pre-order walk of the renderer: membership as an inductive definition (`mem_walk`, `walk_induction`), what every
entry inherits from the root, the entries after the first as the child entries of all entries (`walk_tail_kidEntries`),
and distinct paths under `Elem.Inv` (`walk_paths_nodup`) -/
namespace Xsg

theorem walk_eq (s : SortBy) (path trace : List Name) (e : Elem) :
    walk s path trace e = ⟨path ++ [e.name], trace ++ [pascal e.name], e⟩ ::
      ((sortKeyed (walk.walkKids s (path ++ [e.name]) (trace ++ [pascal e.name]) e.children)).flatMap (·.2)) := by
  cases e; rfl

theorem walkKids_eq (s : SortBy) (path trace : List Name) (cs : List (Nec × Elem)) :
    walk.walkKids s path trace cs =
      (cs.filter fun c => !c.2.textOnly).map fun c => (sortKeyOf s c.2, walk s path trace c.2) := by
  induction cs with
  | nil => rfl
  | cons c cs ih => obtain ⟨_, e⟩ := c; cases h : e.textOnly <;> simp [walk.walkKids, h, ih]

theorem walk_cons (s : SortBy) (path trace : List Name) (e : Elem) :
    walk s path trace e = ⟨path ++ [e.name], trace ++ [pascal e.name], e⟩ :: (walk s path trace e).tail := by
  rw [walk_eq]; rfl

theorem walk_tail_perm (s : SortBy) (path trace : List Name) (e : Elem) :
    (walk s path trace e).tail.Perm
      ((e.children.filter fun c => !c.2.textOnly).flatMap fun c => walk s (path ++ [e.name]) (trace ++ [pascal e.name]) c.2) := by
  rw [walk_eq, walkKids_eq, List.tail_cons]
  refine ((perm_insertionSort _ _).flatMap_right _).trans ?_
  rw [List.flatMap_map]

/-- up to the order of the children, the walk is the own entry followed by the walks of the struct-bearing children -/
theorem walk_perm (s : SortBy) (path trace : List Name) (e : Elem) :
    (walk s path trace e).Perm (⟨path ++ [e.name], trace ++ [pascal e.name], e⟩ ::
      (e.children.filter fun c => !c.2.textOnly).flatMap fun c => walk s (path ++ [e.name]) (trace ++ [pascal e.name]) c.2) := by
  rw [walk_cons]; exact .cons _ (walk_tail_perm s path trace e)

theorem mem_walk {s : SortBy} {path trace : List Name} {e : Elem} {en : Entry} :
    en ∈ walk s path trace e ↔ en = ⟨path ++ [e.name], trace ++ [pascal e.name], e⟩ ∨
      ∃ c ∈ e.children, c.2.textOnly = false ∧ en ∈ walk s (path ++ [e.name]) (trace ++ [pascal e.name]) c.2 := by
  simp [(walk_perm s path trace e).mem_iff, and_assoc]

/-- rule induction on membership in the walk: `mem_walk` read as an inductive definition (the motive takes the
membership proof so that `induction h using walk_induction` finds its targets) -/
theorem walk_induction {s : SortBy} {P : ∀ path trace e en, en ∈ walk s path trace e → Prop}
    (root : ∀ path trace e, P path trace e _ (mem_walk.mpr (.inl rfl)))
    (child : ∀ path trace e c en (hc : c ∈ e.children) (ht : c.2.textOnly = false)
      (h : en ∈ walk s (path ++ [e.name]) (trace ++ [pascal e.name]) c.2),
      P _ _ c.2 en h → P path trace e en (mem_walk.mpr (.inr ⟨c, hc, ht, h⟩)))
    {path trace : List Name} {e : Elem} {en : Entry} (h : en ∈ walk s path trace e) : P path trace e en h := by
  induction e using Elem.ind generalizing path trace with
  | step e ih =>
    rcases mem_walk.mp h with rfl | ⟨c, hc, ht, h'⟩
    · exact root ..
    · exact child _ _ _ c en hc ht h' (ih c hc h')

theorem walk_head (s : SortBy) (e : Elem) :
    (walk s [] [] e).head? = some ⟨[e.name], [pascal e.name], e⟩ := by
  rw [walk_eq]; rfl

theorem walk_trace (s : SortBy) (e : Elem) (path trace : List Name) (h : trace = path.map pascal) :
    ∀ en ∈ walk s path trace e, en.trace = en.path.map pascal := by
  intro en hen
  induction hen using walk_induction with
  | root path trace e => simp [h]
  | child _ _ _ _ _ _ _ _ ih => exact ih (by simp [h])

theorem mem_walk_sort (s₁ s₂ : SortBy) (e : Elem) (path trace : List Name) (en : Entry)
    (h : en ∈ walk s₁ path trace e) : en ∈ walk s₂ path trace e := by
  induction h using walk_induction with
  | root => exact mem_walk.mpr (.inl rfl)
  | child _ _ _ c _ hc ht _ ih => exact mem_walk.mpr (.inr ⟨c, hc, ht, ih⟩)

theorem walk_prefix (s : SortBy) (e : Elem) (path trace : List Name) (en : Entry)
    (h : en ∈ walk s path trace e) : (path ++ [e.name]) <+: en.path := by
  induction h using walk_induction with
  | root => exact List.prefix_refl _
  | child _ _ _ _ _ _ _ _ ih => exact (List.prefix_append _ _).trans ih

theorem walk_path_getLast (s : SortBy) (e : Elem) (path trace : List Name) :
    ∀ en ∈ walk s path trace e, en.path.getLast? = some en.elem.name := by
  intro en hen
  induction hen using walk_induction with
  | root => simp
  | child _ _ _ _ _ _ _ _ ih => exact ih

/-- every entry's element is a subtree of the walked element, so it inherits the invariant -/
theorem walk_inv (s : SortBy) (e : Elem) (he : e.Inv = true) (path trace : List Name) (en : Entry)
    (h : en ∈ walk s path trace e) : en.elem.Inv = true := by
  induction h using walk_induction with
  | root => exact he
  | child _ _ _ _ _ hc _ _ ih => exact ih (Inv_children he hc)

def childEntry (pe : Entry) (c : Nec × Elem) : Entry := ⟨pe.path ++ [c.2.name], pe.trace ++ [pascal c.2.name], c.2⟩

def kidEntries (pe : Entry) : List Entry := (pe.elem.children.filter fun c => !c.2.textOnly).map (childEntry pe)

/-- the entries other than the first are, up to order, the child entries of all entries: every struct but the root's
has one parent struct and one child position in it -/
theorem walk_tail_kidEntries (s : SortBy) (e : Elem) : ∀ (path trace : List Name),
    (walk s path trace e).tail.Perm ((walk s path trace e).flatMap kidEntries) := by
  induction e using Elem.ind with
  | step e ih =>
    intro path trace
    -- the walk of a child is the child's entry followed, by induction, by the child entries of that walk
    have hk : ∀ c ∈ e.children.filter (fun c => !c.2.textOnly),
        (walk s (path ++ [e.name]) (trace ++ [pascal e.name]) c.2).Perm
          ([childEntry ⟨path ++ [e.name], trace ++ [pascal e.name], e⟩ c] ++
            (walk s (path ++ [e.name]) (trace ++ [pascal e.name]) c.2).flatMap kidEntries) := fun c hc =>
      (List.Perm.of_eq (walk_cons s _ _ c.2)).trans (.cons _ (ih c (List.mem_filter.mp hc).1 _ _))
    refine (walk_tail_perm s path trace e).trans (((flatMap_perm_congr _ _ _ hk).trans (flatMap_append_perm _ _ _)).trans ?_)
    conv => rhs; rw [walk_cons s path trace e]
    rw [List.flatMap_cons]
    refine .append (by rw [← List.map_eq_flatMap]; rfl) ?_
    rw [← List.flatMap_assoc]
    exact ((walk_tail_perm s path trace e).flatMap_right _).symm

theorem child_entry_mem (s : SortBy) (en : Entry) (c : Nec × Elem) (hcm : c ∈ en.elem.children) (hto : c.2.textOnly = false)
    (e : Elem) (path trace : List Name) (h : en ∈ walk s path trace e) :
    (⟨en.path ++ [c.2.name], en.trace ++ [pascal c.2.name], c.2⟩ : Entry) ∈ walk s path trace e :=
  List.mem_of_mem_tail ((walk_tail_kidEntries s e path trace).mem_iff.mpr (List.mem_flatMap.mpr
    ⟨en, h, List.mem_map.mpr ⟨c, List.mem_filter.mpr ⟨hcm, by simp [hto]⟩, rfl⟩⟩))

theorem walk_paths_nodup (s : SortBy) (e : Elem) (he : e.Inv = true) :
    ∀ (path trace : List Name), ((walk s path trace e).map (·.path)).Nodup := by
  induction e using Elem.ind with
  | step e ih =>
    intro path trace
    refine (((walk_perm s path trace e).map _).nodup_iff).mpr ?_
    simp only [List.map_cons, List.nodup_cons, List.map_flatMap, List.mem_flatMap, List.mem_filter, List.mem_map]
    constructor
    · -- the own path is shorter than every other path
      rintro ⟨c, _, x, hx, hp⟩
      exact absurd (by simpa [← hp] using (walk_prefix s c.2 _ _ x hx).length_le) (Nat.not_succ_le_self _)
    · refine List.pairwise_flatMap.mpr ⟨fun c hc => ih c (List.mem_filter.mp hc).1 (Inv_children he (List.mem_filter.mp hc).1) _ _, ?_⟩
      -- paths below different children differ in the child's name
      have hnd : (e.children.filter fun c => !c.2.textOnly).Pairwise (fun a b => a.2.name ≠ b.2.name) :=
        (List.pairwise_map.mp (Inv_nodup he)).filter _
      refine hnd.imp fun {a b} hab p hp q hq hpq => hab ?_
      simp only [List.mem_map] at hp hq
      obtain ⟨x, hx, rfl⟩ := hp
      obtain ⟨y, hy, rfl⟩ := hq
      have p1 := walk_prefix s a.2 _ _ x hx
      have p2 := walk_prefix s b.2 _ _ y hy
      rw [hpq] at p1
      simpa using (List.prefix_of_prefix_length_le p1 p2 (by simp)).eq_of_length (by simp)

theorem mem_renderWith {H : Name → Option Nat} {o : Options} {t : Elem} {s : StructDef} (h : s ∈ renderWith H o t) :
    ∃ en ∈ walk o.sort [] [] t, s = structOf o H (structNames H t) en := by
  simp only [renderWith, List.mem_map] at h
  obtain ⟨en, hen, rfl⟩ := h
  exact ⟨en, hen, rfl⟩

end Xsg
