import XsgModel.Proofs.ListFacts
/-! `HashMap::get` after `insert`s in list order (the last binding wins): `tableLookup`, `pathLookup` and `identLookup`
of the model are this one function at three types (`tableLookup_eq`, `pathLookup_eq`, `identLookup_eq`, each `rfl`) -/
namespace Xsg

def lookupLast {κ ν : Type} [DecidableEq κ] (tbl : List (κ × ν)) (k : κ) : Option ν :=
  (tbl.reverse.find? (fun p => p.1 = k)).map (·.2)

variable {κ ν : Type} [DecidableEq κ]

theorem lookupLast_mem {tbl : List (κ × ν)} {k : κ} {v : ν} (h : lookupLast tbl k = some v) : (k, v) ∈ tbl := by
  simp only [lookupLast, Option.map_eq_some_iff] at h
  obtain ⟨p, hp, rfl⟩ := h
  have := List.find?_some hp
  simp only [decide_eq_true_eq] at this
  exact this ▸ List.mem_reverse.mp (List.mem_of_find?_eq_some hp)

theorem lookupLast_eq_none {tbl : List (κ × ν)} {k : κ} : lookupLast tbl k = none ↔ ∀ p ∈ tbl, p.1 ≠ k := by
  simp [lookupLast]

/-- with distinct keys the table is a function: a binding that is in it is the one found -/
theorem lookupLast_of_mem {tbl : List (κ × ν)} (hnd : (tbl.map (·.1)).Nodup) {k : κ} {v : ν} (h : (k, v) ∈ tbl) :
    lookupLast tbl k = some v := by
  cases hl : lookupLast tbl k with
  | none => exact absurd rfl (lookupLast_eq_none.mp hl _ h)
  | some w => rw [(Prod.mk.inj (inj_of_nodup_map (·.1) tbl hnd _ (lookupLast_mem hl) _ h rfl)).2]

theorem lookupLast_of_agree {tbl : List (κ × ν)} {f : κ → Option ν} (hf : ∀ p ∈ tbl, f p.1 = some p.2) (k : κ) :
    lookupLast tbl k = if k ∈ tbl.map (·.1) then f k else none := by
  cases hl : lookupLast tbl k with
  | some v =>
    have hm := lookupLast_mem hl
    rw [if_pos (List.mem_map_of_mem (f := (·.1)) hm)]; exact (hf _ hm).symm
  | none =>
    rw [if_neg]
    intro hk
    obtain ⟨p, hp, rfl⟩ := List.mem_map.mp hk
    exact lookupLast_eq_none.mp hl p hp rfl

end Xsg
