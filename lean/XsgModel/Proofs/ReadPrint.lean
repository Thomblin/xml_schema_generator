import XsgModel.Model.RustSyntax
/-!
reading the printed program back gives the program, `readProgram (printAST p) = some (p.map plain)`, if what is printed
between the format's own punctuation cannot be mistaken for it (`StructPrintable`: no line break; no `:` in an identifier,
no `<` in a type name)

The text is the lines of the program joined (`printAST_lines`), the reader splits them again (`splitLines_join`), and
each of the four line formats (`deriveLine`, `headerLine`, `renameLine`, `pubLine`) has one lemma that says what
`readLine` does on it.  The long literals of the format occur in the definitions of the four formats only (a statement
that spells one out is slow to elaborate, and `simp` walks through a literal one character at a time).
-/
namespace Xsg

theorem stripPrefix?_eq_some_iff {p s r : Name} : stripPrefix? p s = some r ↔ s = p ++ r := by
  induction p generalizing s with
  | nil => simp [stripPrefix?, eq_comm]
  | cons c cs ih =>
    cases s with
    | nil => simp [stripPrefix?]
    | cons d ds =>
      by_cases h : c = d
      · subst h; simp [stripPrefix?, ih]
      · simp [stripPrefix?, h, Ne.symm h]

theorem stripPrefix?_append (p s : Name) : stripPrefix? p (p ++ s) = some s := stripPrefix?_eq_some_iff.mpr rfl

theorem stripPrefix?_append_append (a p s : Name) : stripPrefix? (a ++ p) (a ++ s) = stripPrefix? p s :=
  Option.ext fun r => by simp only [stripPrefix?_eq_some_iff, List.append_assoc, List.append_cancel_left_eq]

theorem stripPrefix?_none_of_not_mem {p s : Name} (c : Char) (hc : c ∈ p) (hs : c ∉ s) : stripPrefix? p s = none := by
  cases h : stripPrefix? p s with
  | none => rfl
  | some r => exact absurd (by rw [stripPrefix?_eq_some_iff.mp h]; simp [hc]) hs

theorem stripSuffix?_append (suf s : Name) : stripSuffix? suf (s ++ suf) = some s := by
  unfold stripSuffix?
  rw [List.reverse_append, stripPrefix?_append]; simp

/-- the two names differ at a position both have -/
def differ : Name → Name → Bool
  | x :: ps, y :: as => x != y || differ ps as
  | _, _ => false

/-- a prefix that differs from the (closed) head of a text is not stripped, whatever follows the head -/
theorem stripPrefix?_differ {p a : Name} (h : differ p a = true) (s : Name) : stripPrefix? p (a ++ s) = none := by
  induction p generalizing a with
  | nil => cases a <;> cases h
  | cons x ps ih =>
    cases a with
    | nil => cases h
    | cons y as =>
      simp only [differ, Bool.or_eq_true, bne_iff_ne, ne_eq] at h
      simp only [List.cons_append, stripPrefix?]
      split
      · exact ih (h.resolve_left (not_not_intro ‹_›))
      · rfl

def NoNL (l : Name) : Prop := '\n' ∉ l

instance (l : Name) : Decidable (NoNL l) := inferInstanceAs (Decidable ('\n' ∉ l))

theorem NoNL_append {a b : Name} : NoNL (a ++ b) ↔ NoNL a ∧ NoNL b := by simp [NoNL]

theorem splitLines_go_line (line : Name) (h : NoNL line) (rest cur : Name) (acc : List Name) :
    splitLines.go (line ++ '\n' :: rest) cur acc = splitLines.go rest [] ((line.reverse ++ cur).reverse :: acc) := by
  induction line generalizing cur with
  | nil => simp [splitLines.go]
  | cons c cs ih =>
    have hc : c ≠ '\n' := by intro e; apply h; simp [e]
    have hcs : NoNL cs := by intro hm; apply h; simp [hm]
    simp only [List.cons_append, splitLines.go, hc, if_false]
    rw [ih hcs]; simp

def joinLines (lines : List Name) : Name := lines.flatMap (· ++ ['\n'])

theorem joinLines_nil : joinLines [] = [] := rfl
theorem joinLines_cons (l : Name) (ls : List Name) : joinLines (l :: ls) = l ++ (['\n'] ++ joinLines ls) := by
  simp [joinLines]
theorem joinLines_append (a b : List Name) : joinLines (a ++ b) = joinLines a ++ joinLines b := List.flatMap_append
theorem joinLines_flatMap {α : Type} (f : α → List Name) (l : List α) :
    joinLines (l.flatMap f) = (l.map fun a => joinLines (f a)).flatten := by
  induction l with
  | nil => rfl
  | cons a l ih => simp only [List.flatMap_cons, joinLines_append, ih, List.map_cons, List.flatten_cons]

theorem splitLines_go_join (lines : List Name) (h : ∀ l ∈ lines, NoNL l) (acc : List Name) :
    splitLines.go (joinLines lines) [] acc = (([] : Name) :: (lines.reverse ++ acc)).reverse := by
  induction lines generalizing acc with
  | nil => simp [joinLines, splitLines.go]
  | cons l ls ih =>
    simp only [joinLines, List.flatMap_cons, List.append_assoc, List.singleton_append]
    rw [splitLines_go_line l (h l (by simp))]
    have := ih (fun x hx => h x (by simp [hx])) ((l.reverse ++ []).reverse :: acc)
    simp only [joinLines] at this
    rw [this]; simp

theorem splitLines_join (lines : List Name) (h : ∀ l ∈ lines, NoNL l) : splitLines (joinLines lines) = lines ++ [[]] := by
  unfold splitLines
  rw [splitLines_go_join lines h]; simp

def deriveLine (d : Name) : Name := cl!"#[derive(" ++ (d ++ cl!")]")
def headerLine (n : Name) : Name := cl!"pub struct " ++ (n ++ cl!" {")
def renameLine (r : Name) : Name := cl!"    #[serde(rename = \"" ++ (r ++ cl!"\")]")
def pubLine (ident ty : Name) : Name := cl!"    pub " ++ (ident ++ cl!": " ++ ty ++ cl!",")

def fieldLines (f : Field) : List Name :=
  (match f.rename with
   | some r => [renameLine r]
   | none => []) ++ [pubLine f.ident f.tyString]

def structLines (s : StructDef) : List Name :=
  (match s.derive with
   | some d => [deriveLine d]
   | none => []) ++ [headerLine s.name] ++ s.fields.flatMap fieldLines ++ [cl!"}", []]

/- the model's literals end in the newline; `show` splits it off, and `simp` is kept from walking into a literal -/
theorem printField_lines (f : Field) : printField f = joinLines (fieldLines f) := by
  unfold printField fieldLines renameLine pubLine
  cases f.rename with
  | none =>
    show [] ++ _ ++ _ ++ _ ++ _ ++ (cl!"," ++ ['\n']) = joinLines [_]
    rw [joinLines_cons, joinLines_nil]
    simp only [List.nil_append, List.append_nil, List.append_assoc]
  | some r =>
    show _ ++ _ ++ (cl!"\")]" ++ ['\n']) ++ _ ++ _ ++ _ ++ _ ++ (cl!"," ++ ['\n']) = joinLines [_, _]
    rw [joinLines_cons, joinLines_cons, joinLines_nil]
    simp only [List.append_nil, List.append_assoc]

theorem joinLines_struct (hd : List Name) (h : Name) (fs : List Field) :
    joinLines (hd ++ [h] ++ fs.flatMap fieldLines ++ [cl!"}", []]) =
      joinLines hd ++ (h ++ ['\n']) ++ (fs.map printField).flatten ++ cl!"}\n\n" := by
  simp only [joinLines_append, joinLines_cons, joinLines_nil, joinLines_flatMap, ← printField_lines, List.append_nil,
    List.append_assoc, List.nil_append]
  rfl

theorem printStruct_lines (s : StructDef) : printStruct s = joinLines (structLines s) := by
  unfold printStruct structLines
  rw [joinLines_struct]
  unfold headerLine deriveLine
  cases s.derive with
  | none =>
    show [] ++ _ ++ _ ++ (cl!" {" ++ ['\n']) ++ _ ++ _ = _
    simp only [joinLines_nil, List.nil_append, List.append_assoc]
  | some d =>
    show _ ++ _ ++ (cl!")]" ++ ['\n']) ++ _ ++ _ ++ (cl!" {" ++ ['\n']) ++ _ ++ _ = _
    simp only [joinLines_cons, joinLines_nil, List.append_nil, List.append_assoc]

theorem printAST_lines (p : List StructDef) : printAST p = joinLines (p.flatMap structLines) := by
  simp only [printAST, joinLines_flatMap, ← printStruct_lines]

theorem splitColon_spec (x ty acc : Name) (h : ':' ∉ x) :
    splitColon (x ++ cl!": " ++ ty) acc = some (acc.reverse ++ x, ty) := by
  induction x generalizing acc with
  | nil =>
    show splitColon (':' :: ' ' :: ty) acc = _
    simp [splitColon, stripPrefix?]
  | cons c cs ih =>
    have hc : ':' ≠ c := fun e => h (e ▸ List.mem_cons_self)
    have hcs : ':' ∉ cs := fun hm => h (by simp [hm])
    simp only [List.cons_append, splitColon, stripPrefix?, hc, if_false]
    rw [ih _ hcs]; simp

/-- a type name as the renderer produces it: no angle brackets -/
def PlainBase (b : Name) : Prop := '<' ∉ b ∧ '>' ∉ b

theorem parseTy_plain {b : Name} (h : '<' ∉ b) : parseTy b = (false, false, b) := by
  have n : ∀ p : Name, '<' ∈ p → stripPrefix? p b = none := fun p hp => stripPrefix?_none_of_not_mem '<' hp h
  simp only [parseTy, n _ (show '<' ∈ cl!"Option<Vec<" by decide), n _ (show '<' ∈ cl!"Option<" by decide),
    n _ (show '<' ∈ cl!"Vec<" by decide)]

theorem parseTy_vec {b : Name} : parseTy (cl!"Vec<" ++ (b ++ cl!">")) = (false, true, b) := by
  simp only [parseTy, stripPrefix?_differ (p := cl!"Option<Vec<") (a := cl!"Vec<") (by decide),
    stripPrefix?_differ (p := cl!"Option<") (a := cl!"Vec<") (by decide), stripPrefix?_append, stripSuffix?_append, Option.getD_some]

/-- after the common `Option<`, the longer prefix would have to find its rest `Vec<` in `b>` -/
theorem parseTy_option {b : Name} (h : '<' ∉ b) : parseTy (cl!"Option<" ++ (b ++ cl!">")) = (true, false, b) := by
  have : stripPrefix? (cl!"Option<Vec<") (cl!"Option<" ++ (b ++ cl!">")) = none :=
    (stripPrefix?_append_append (cl!"Option<") (cl!"Vec<") _).trans
      (stripPrefix?_none_of_not_mem '<' (by decide) (by simp [h]))
  simp only [parseTy, this, stripPrefix?_append, stripSuffix?_append, Option.getD_some]

theorem parseTy_optionVec {b : Name} : parseTy (cl!"Option<Vec<" ++ (b ++ cl!">>")) = (true, true, b) := by
  simp only [parseTy, stripPrefix?_append, stripSuffix?_append, Option.getD_some]

theorem parseTy_tyString (f : Field) (h : PlainBase f.base) : parseTy f.tyString = (f.opt, f.vec, f.base) := by
  unfold Field.tyString
  cases f.opt <;> cases f.vec <;> simp only [List.append_assoc]
  · exact parseTy_plain h.1
  · exact parseTy_vec
  · exact parseTy_option h.1
  · exact parseTy_optionVec

/-- the reader between two structs, with the derive line it may have seen -/
abbrev ReadState.between (done : List PStruct) (pd : Option Name) : ReadState :=
  { done := done, cur := none, pendingDerive := pd, pendingRename := none }

/-- the reader inside a struct, with the rename line it may have seen -/
abbrev ReadState.inside (done : List PStruct) (d : Option Name) (n : Name) (fs : List PField) (pr : Option Name) : ReadState :=
  { done := done, cur := some (d, n, fs), pendingDerive := none, pendingRename := pr }

theorem readLine_derive (done : List PStruct) (d : Name) :
    readLine (.between done none) (deriveLine d) = some (.between done (some d)) := by
  simp only [readLine, deriveLine, stripPrefix?_append, stripSuffix?_append,
    show (cl!"#[derive(" ++ (d ++ cl!")]")).isEmpty = false from rfl, Bool.false_eq_true, if_false]
  rfl

theorem readLine_header (done : List PStruct) (pd : Option Name) (n : Name) :
    readLine (.between done pd) (headerLine n) = some (.inside done pd n [] none) := by
  simp only [readLine, headerLine, stripPrefix?_differ (p := cl!"#[derive(") (a := cl!"pub struct ") (by decide),
    stripPrefix?_append, stripSuffix?_append, show (cl!"pub struct " ++ (n ++ cl!" {")).isEmpty = false from rfl,
    Bool.false_eq_true, if_false]
  rfl

theorem readLine_rename (done : List PStruct) (d : Option Name) (n : Name) (fs : List PField) (r : Name) :
    readLine (.inside done d n fs none) (renameLine r) = some (.inside done d n fs (some r)) := by
  simp only [readLine, renameLine, stripPrefix?_append, stripSuffix?_append,
    show (cl!"    #[serde(rename = \"" ++ (r ++ cl!"\")]") = cl!"}") = False from eq_false (fun h => nomatch h), if_false]
  rfl

theorem readLine_pub (done : List PStruct) (d : Option Name) (n : Name) (fs : List PField) (pr : Option Name)
    (ident ty : Name) (h : ':' ∉ ident) :
    readLine (.inside done d n fs pr) (pubLine ident ty)
      = some (.inside done d n (fs ++ [⟨pr, ident, (parseTy ty).1, (parseTy ty).2.1, (parseTy ty).2.2⟩]) none) := by
  have h4 := splitColon_spec ident ty [] h
  simp only [readLine, pubLine, stripPrefix?_differ (p := cl!"    #[serde(rename = \"") (a := cl!"    pub ") (by decide),
    stripPrefix?_append, stripSuffix?_append, h4,
    show (cl!"    pub " ++ (ident ++ cl!": " ++ ty ++ cl!",") = cl!"}") = False from eq_false (fun h => nomatch h), if_false]
  rfl

theorem readLine_close (done : List PStruct) (d : Option Name) (n : Name) (fs : List PField) :
    readLine (.inside done d n fs none) (cl!"}") = some (.between (done ++ [⟨d, n, fs⟩]) none) := by
  simp [readLine]

theorem readLine_blank (done : List PStruct) : readLine (.between done none) [] = some (.between done none) := by
  simp [readLine]

/-- what the renderer must guarantee for a field / struct to be readable back -/
structure FieldPrintable (f : Field) : Prop where
  rename_nl : ∀ r, f.rename = some r → NoNL r
  ident_colon : ':' ∉ f.ident
  ident_nl : NoNL f.ident
  base : PlainBase f.base
  base_nl : NoNL f.base

structure StructPrintable (s : StructDef) : Prop where
  derive_nl : ∀ d, s.derive = some d → NoNL d
  name_nl : NoNL s.name
  fields : ∀ f ∈ s.fields, FieldPrintable f

abbrev readFold (st : Option ReadState) (lines : List Name) : Option ReadState :=
  lines.foldl (fun st l => st.bind (readLine · l)) st

theorem readFold_append (st : Option ReadState) (a b : List Name) : readFold st (a ++ b) = readFold (readFold st a) b :=
  List.foldl_append

theorem readFold_nil (st : Option ReadState) : readFold st [] = st := rfl
theorem readFold_cons (st : ReadState) (l : Name) (ls : List Name) : readFold (some st) (l :: ls) = readFold (readLine st l) ls := rfl

theorem read_field (done : List PStruct) (d : Option Name) (n : Name) (fs : List PField) (f : Field) (hf : FieldPrintable f) :
    readFold (some (.inside done d n fs none)) (fieldLines f) = some (.inside done d n (fs ++ [f.plain]) none) := by
  have hbody := fun pr => readLine_pub done d n fs pr f.ident f.tyString hf.ident_colon
  simp only [parseTy_tyString f hf.base] at hbody
  unfold fieldLines Field.plain
  cases f.rename with
  | none => simp only [List.nil_append, readFold_cons, readFold_nil, hbody]
  | some r => simp only [List.singleton_append, readFold_cons, readFold_nil, readLine_rename, hbody]

theorem read_fields (done : List PStruct) (d : Option Name) (n : Name) (fs : List Field) (acc : List PField)
    (h : ∀ f ∈ fs, FieldPrintable f) :
    readFold (some (.inside done d n acc none)) (fs.flatMap fieldLines)
      = some (.inside done d n (acc ++ fs.map Field.plain) none) := by
  induction fs generalizing acc with
  | nil => simp [readFold]
  | cons f fs ih =>
    rw [List.flatMap_cons, readFold_append, read_field done d n acc f (h f (by simp)),
      ih (acc ++ [f.plain]) (fun x hx => h x (by simp [hx]))]
    simp

theorem read_struct (done : List PStruct) (s : StructDef) (hs : StructPrintable s) :
    readFold (some (.between done none)) (structLines s) = some (.between (done ++ [s.plain]) none) := by
  -- from the header line on, with whatever derive is pending
  have hrest : ∀ pd, readFold (some (.between done pd)) ([headerLine s.name] ++ s.fields.flatMap fieldLines ++ [cl!"}", []])
      = some (.between (done ++ [⟨pd, s.name, s.fields.map Field.plain⟩]) none) := by
    intro pd
    rw [readFold_append, readFold_append]
    simp only [readFold_cons, readFold_nil, readLine_header, read_fields done pd s.name s.fields [] hs.fields, List.nil_append,
      readLine_close, readLine_blank]
  unfold structLines StructDef.plain
  cases s.derive with
  | none => exact hrest none
  | some d =>
    rw [List.append_assoc, List.append_assoc, List.singleton_append, readFold_cons, readLine_derive]
    simpa only [List.append_assoc] using hrest (some d)

theorem read_structs (p : List StructDef) (done : List PStruct) (h : ∀ s ∈ p, StructPrintable s) :
    readFold (some (.between done none)) (p.flatMap structLines) = some (.between (done ++ p.map StructDef.plain) none) := by
  induction p generalizing done with
  | nil => simp [readFold]
  | cons s ss ih =>
    simp only [List.flatMap_cons]
    rw [readFold_append, read_struct done s (h s (by simp)), ih _ (fun x hx => h x (by simp [hx]))]
    simp

theorem tyString_nonl {f : Field} (h : NoNL f.base) : NoNL f.tyString := by
  unfold Field.tyString
  split <;> simp only [NoNL_append, h, and_true] <;> decide

theorem fieldLines_nonl (f : Field) (h : FieldPrintable f) : ∀ l ∈ fieldLines f, NoNL l := by
  unfold fieldLines renameLine pubLine
  simp only [List.mem_append, List.mem_singleton]
  rintro l (hl | rfl)
  · split at hl
    · rename_i r hr
      rw [List.mem_singleton.mp hl]
      exact NoNL_append.mpr ⟨by decide, NoNL_append.mpr ⟨h.rename_nl r hr, by decide⟩⟩
    · cases hl
  · simp only [NoNL_append, h.ident_nl, tyString_nonl h.base_nl, and_true, true_and]; decide

theorem structLines_nonl (s : StructDef) (h : StructPrintable s) : ∀ l ∈ structLines s, NoNL l := by
  unfold structLines deriveLine headerLine
  simp only [List.mem_append, List.mem_cons, List.mem_flatMap, List.not_mem_nil, or_false]
  rintro l (((hl | rfl) | ⟨f, hf, hlf⟩) | rfl | rfl)
  · split at hl
    · rename_i d hd
      rw [List.mem_singleton.mp hl]
      exact NoNL_append.mpr ⟨by decide, NoNL_append.mpr ⟨h.derive_nl d hd, by decide⟩⟩
    · cases hl
  · simp only [NoNL_append, h.name_nl, true_and]; decide
  · exact fieldLines_nonl f (h.fields f hf) l hlf
  · decide
  · decide

theorem readProgram_printAST (p : List StructDef) (h : ∀ s ∈ p, StructPrintable s) :
    readProgram (printAST p) = some (p.map StructDef.plain) := by
  unfold readProgram
  rw [printAST_lines, splitLines_join _ (by
    intro l hl
    rw [List.mem_flatMap] at hl
    obtain ⟨s, hs, hls⟩ := hl
    exact structLines_nonl s (h s hs) l hls)]
  have := read_structs p [] h
  simp only [readFold, List.nil_append] at this
  rw [List.foldl_append, this]
  simp only [List.foldl_cons, List.foldl_nil, Option.bind_some, readLine_blank]
  rfl

end Xsg
