import XsgModel.Proofs.InvMachine
import XsgModel.Model.Checks
/-! the machine cannot tell an event stream from its normal form (C11) -/
namespace Xsg

theorem step_ignored (s : St) (h : StInv s) : step s .ignored = s := by
  cases s with
  | done w => rfl
  | fail e => rfl
  | run stack =>
    cases stack with
    | nil => exact absurd rfl h.1
    | cons top rest => rfl

theorem step_text_text (s : St) (a b : Name) : step (step s (.text (.ok a))) (.text (.ok b)) = step s (.text (.ok a)) := by
  cases s with
  | done w => rfl
  | fail e => rfl
  | run stack =>
    cases stack with
    | nil => rfl
    | cons top rest => simp [step, setText_setText]

theorem step_congr_act (s : St) (e e' : Ev) (h : e.act = e'.act) : step s e = step s e' := by
  match s with
  | .done _ | .fail _ | .run [] => rfl
  | .run (top :: rest) => rw [step_run, step_run, h]

/-- `<x/>` and `<x></x>` do the same to the parent (needs unique child names inside the stored child, which
is why fix F2 and the invariant matter) -/
theorem closeTag_empty_eq (top : Frame) (k : Name) (as : List Name) (h : top.elem.Inv = true) :
    closeTag (openTag top k as).1 (openTag top k as).2 ((getChild top.elem.children k).map fun c => snapshot c.2)
      = closeTag (openTag top k as).1 (openTag top k as).2 (some []) := by
  have hparent : (openTag top k as).1.elem.children = eraseChild top.elem.children k := by simp [openTag_fst]
  rw [openTag_snd]
  have hentry := getChild_addUniqueChild_self (cs := (openTag top k as).1.elem.children)
    (c := openChild top.elem top.known k as) (by rw [hparent, (openChild_spec rfl).name]; exact getChild_eraseChild_self (Inv_nodup h))
  -- in both cases `tagOptIn` changes the re-inserted child only, and demotes nothing in it
  cases hg : getChild top.elem.children k with
  | none =>
    simp only [Option.map_none, closeTag,
      tagOptIn_eq_self hentry (tagOpt_no_children _ _ (by simp [openChild_children_none hg]))]
  | some p =>
    simp only [Option.map_some, closeTag, tagOptIn_congr hentry
      (tagOpt_nil_eq p.2 _ (by simp [openChild_children_some hg]) (Inv_nodup (Inv_children h (getChild_some_mem hg)))).symm]

theorem step_start_end (s : St) (nm : U8) (as : List AttrItem) (h : StInv s) :
    step (step s (.start nm as)) .endTag = step s (.empty nm as) := by
  cases s with
  | done w => rfl
  | fail e => rfl
  | run stack =>
    cases stack with
    | nil => rfl
    | cons top rest =>
      cases nm with
      | bad m => rfl
      | ok n =>
        cases hk : attrKeys as with
        | error e => simp [step, hk]
        | ok ks =>
          simp only [step, hk]
          rw [closeTag_empty_eq top n ks (h.2 top (by simp))]

theorem run_pushText (s : St) (l : List Ev) : runEvents s (normEvents.pushText l) = runEvents (step s (.text (.ok []))) l := by
  cases l with
  | nil => rfl
  | cons e es =>
    cases e with
    | text u =>
      cases u with
      | ok n =>
        simp only [normEvents.pushText, runEvents_cons]
        rw [step_text_text, step_congr_act s (.text (.ok n)) (.text (.ok [])) rfl]
      | bad m => rfl
    | _ => rfl

theorem run_norm (evs : List Ev) (s : St) (h : StInv s) : runEvents s (normEvents evs) = runEvents s evs := by
  induction evs generalizing s with
  | nil => rfl
  | cons ev evs ih =>
    -- an event that the normal form keeps is simply stepped over
    have keep : normEvents (ev :: evs) = ev :: normEvents evs →
        runEvents s (normEvents (ev :: evs)) = runEvents s (ev :: evs) := fun e => by
      rw [e, runEvents_cons, runEvents_cons]; exact ih _ (StInv_step s _ h)
    -- text and CDATA become one text event, which is absorbed by a text event that follows
    have text : normEvents (ev :: evs) = normEvents.pushText (normEvents evs) → step s ev = step s (.text (.ok [])) →
        runEvents s (normEvents (ev :: evs)) = runEvents s (ev :: evs) := fun e1 e2 => by
      rw [e1, run_pushText, runEvents_cons, ← e2]
      exact ih _ (StInv_step s ev h)
    cases ev with
    | ignored =>
      rw [normEvents, runEvents_cons, step_ignored s h]; exact ih s h
    | empty nm as =>
      rw [normEvents, runEvents_cons, runEvents_cons, runEvents_cons, step_start_end s nm as h]
      exact ih _ (StInv_step s _ h)
    | cdata u =>
      cases u with
      | ok n => exact text rfl (step_congr_act s _ _ rfl)
      | bad m => exact keep rfl
    | text u =>
      cases u with
      | ok n => exact text rfl (step_congr_act s _ _ rfl)
      | bad m => exact keep rfl
    | _ => exact keep rfl

theorem buildFrom_norm (w : Elem) (hw : w.Inv = true) (evs : List Ev) : buildFrom w (normEvents evs) = buildFrom w evs := by
  unfold buildFrom
  rw [run_norm evs _ (StInv_init hw)]

theorem buildFrom_congr (w : Elem) (hw : w.Inv = true) {e₁ e₂ : List Ev} (h : normEvents e₁ = normEvents e₂) :
    buildFrom w e₁ = buildFrom w e₂ := by
  rw [← buildFrom_norm w hw e₁, ← buildFrom_norm w hw e₂, h]

theorem foldl_extendStep_norm (H : List (List Ev)) (acc : Except PErr Elem) (hacc : ∀ t, acc = .ok t → t.Inv = true) :
    (H.map normEvents).foldl extendStep acc = H.foldl extendStep acc := by
  induction H generalizing acc with
  | nil => rfl
  | cons a as ih =>
    have hstep : extendStep acc (normEvents a) = extendStep acc a := by
      cases acc with
      | error e => rfl
      | ok t => exact buildFrom_norm _ (Inv_addChild t wrapper0 (hacc t rfl) (Inv_new _ _)) a
    rw [List.map_cons, List.foldl_cons, List.foldl_cons, hstep]
    exact ih _ (extendStep_inv hacc a)

theorem parseHistory_norm : ∀ H : List (List Ev), parseHistory (H.map normEvents) = parseHistory H
  | [] => rfl
  | a :: as => by
    simp only [parseHistory, List.map_cons]
    rw [show intoStruct (normEvents a) = intoStruct a from buildFrom_norm _ (Inv_new _ _) a,
      foldl_extendStep_norm as _ (Inv_intoStruct a)]

/-! `normEvents` is a fold from the right: the normal form of `e :: r` depends on `r` only through its normal form -/

theorem normEvents_cons_congr (e : Ev) {x y : List Ev} (h : normEvents x = normEvents y) :
    normEvents (e :: x) = normEvents (e :: y) := by
  cases e with
  | text u | cdata u => cases u <;> simp only [normEvents, h]
  | _ => simp only [normEvents, h]

theorem normEvents_append_congr (pre : List Ev) {x y : List Ev} (h : normEvents x = normEvents y) :
    normEvents (pre ++ x) = normEvents (pre ++ y) := by
  induction pre with
  | nil => exact h
  | cons e pre ih => exact normEvents_cons_congr e ih

end Xsg
