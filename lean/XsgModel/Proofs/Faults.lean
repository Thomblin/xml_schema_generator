import XsgModel.Proofs.Act
import XsgModel.Proofs.TagOpt
/-! the event loop fails exactly at the first fault (`run_spec`, `errOf_buildFrom`: C08), and an input without fault and
without element leaves the wrapper as it was (`run_elementless`, `buildFrom_elementless`); in between, what `extractRoot`
takes out of the wrapper -/
namespace Xsg

def errOf : Except PErr Elem → Option PErr
  | .ok _ => none
  | .error e => some e

/-- the bottom activation (the synthetic wrapper) -/
def bottom : Frame → List Frame → Frame
  | f, [] => f
  | _, g :: rest => bottom g rest

/-- the wrapper has a child, or an element is still open -/
def Started (top : Frame) (rest : List Frame) : Prop := rest ≠ [] ∨ top.elem.children ≠ []

theorem closeTag_children_ne_nil (parent : Frame) (child : Elem) (snap : Option Snapshot) :
    (closeTag parent child snap).elem.children ≠ [] := by
  unfold closeTag
  cases parent.elem with
  | mk n t s c a cs p =>
    simp only [Elem.setChildren, Elem.children]
    cases snap with
    | none => exact addUniqueChild_ne_nil _ _
    | some S =>
      intro (e : tagOptIn (addUniqueChild cs child) child.name S = [])
      exact addUniqueChild_ne_nil cs child (List.eq_nil_of_length_eq_zero (by rw [← length_tagOptIn _ child.name S, e]; rfl))

theorem Started.text {top : Frame} {rest : List Frame} :
    Started { top with elem := top.elem.setText true } rest ↔ Started top rest := by
  unfold Started; cases top.elem; rfl

theorem Started.closeTag (parent : Frame) (child : Elem) (snap : Option Snapshot) (rest : List Frame) :
    Started (closeTag parent child snap) rest := Or.inr (closeTag_children_ne_nil _ _ _)

theorem unwind_children_iff (top : Frame) (rest : List Frame) : (unwind top rest).children ≠ [] ↔ Started top rest := by
  induction rest generalizing top with
  | nil => simp [unwind, Started]
  | cons p rest ih => rw [unwind, ih]; exact iff_of_true (Started.closeTag ..) (Or.inl (List.cons_ne_nil _ _))

/-- an outcome: the fault `f` if there is one, otherwise a wrapper that has children iff `P` -/
def Ends (x : Except PErr Elem) (f : Option PErr) (P : Prop) : Prop :=
  errOf x = f ∧ (f = none → ∃ w, x = .ok w ∧ (w.children ≠ [] ↔ P))

theorem Ends.error (e : PErr) (P : Prop) : Ends (.error e) (some e) P := ⟨rfl, fun h => nomatch h⟩

theorem Ends.ok (w : Elem) : Ends (.ok w) none (w.children ≠ []) := ⟨rfl, fun _ => ⟨w, rfl, Iff.rfl⟩⟩

theorem Ends.congr {x f} {P Q : Prop} (h : Ends x f P) (hPQ : P ↔ Q) : Ends x f Q :=
  ⟨h.1, fun hf => let ⟨w, hw, hc⟩ := h.2 hf; ⟨w, hw, hc.trans hPQ⟩⟩

/-- generalised statement over every reachable configuration: the error is the first fault (depth = open
elements), and without a fault the wrapper ends up with a child iff an element had started or starts -/
theorem run_spec (evs : List Ev) (top : Frame) (rest : List Frame) :
    Ends (finish (runEvents (.run (top :: rest)) evs)) (firstFault rest.length evs)
      (Started top rest ∨ hasElement rest.length evs = true) := by
  induction evs generalizing top rest with
  | nil => exact (Ends.ok _).congr (by simp [unwind_children_iff, hasElement])
  | cons ev evs ih =>
    rw [runEvents_cons, step_run, firstFault_cons, hasElement_cons]
    cases ev.act with
    | fault e => rw [stepAct, runEvents_fail]; exact Ends.error e _
    | push n ks => exact (ih _ (_ :: rest)).congr (iff_of_true (Or.inl (Or.inl (List.cons_ne_nil _ _))) (Or.inr rfl))
    | leaf n ks => exact (ih _ rest).congr (iff_of_true (Or.inl (Started.closeTag ..)) (Or.inr rfl))
    | pop =>
      cases rest with
      | nil => rw [stepAct, runEvents_done]; exact (Ends.ok _).congr (by simp [Started])
      | cons parent rest' =>
        simp only [List.length_cons, Nat.add_one_ne_zero, if_false, Nat.add_sub_cancel]
        exact (ih _ rest').congr (iff_of_true (Or.inl (Started.closeTag ..)) (Or.inl (Or.inl (List.cons_ne_nil _ _))))
    | text => exact (ih _ rest).congr (by rw [Started.text])
    | skip => exact ih top rest
    | stop => rw [stepAct, runEvents_done]; exact (Ends.ok _).congr (by simp [unwind_children_iff])

theorem run_elementless (evs : List Ev) (f : Frame) (h1 : firstFault 0 evs = none) (h2 : hasElement 0 evs = false) :
    ∃ w, finish (runEvents (.run [f]) evs) = .ok w ∧ w.children = f.elem.children := by
  induction evs generalizing f with
  | nil => exact ⟨f.elem, rfl, rfl⟩
  | cons ev evs ih =>
    rw [firstFault_cons] at h1
    rw [hasElement_cons] at h2
    rw [runEvents_cons, step_run]
    revert h1 h2
    cases ev.act <;> dsimp only [stepAct] <;> intro h1 h2
    case fault => cases h1
    case push | leaf => cases h2
    case pop | stop => exact ⟨f.elem, by rw [runEvents_done]; rfl, rfl⟩
    case text =>
      obtain ⟨w, hw, hc⟩ := ih { f with elem := f.elem.setText true } h1 h2
      exact ⟨w, hw, hc.trans (by cases f.elem; rfl)⟩
    case skip => exact ih f h1 h2

/-- the first child of the wrapper (looking it up by its name finds it again) -/
theorem extractRoot_eq (w : Elem) : extractRoot w = match w.children with
    | [] => .error .noRoot
    | (_, c) :: _ => .ok c := by
  unfold extractRoot
  cases w.children with
  | nil => rfl
  | cons d ds =>
    obtain ⟨n, c⟩ := d
    simp only [getChild_cons, if_true]

/-- an input without fault and without element gives back the first child the wrapper had -/
theorem buildFrom_elementless (w : Elem) (evs : List Ev) (h1 : firstFault 0 evs = none) (h2 : hasElement 0 evs = false) :
    buildFrom w evs = extractRoot w := by
  obtain ⟨w', hw, hc⟩ := run_elementless evs ⟨w, [], none⟩ h1 h2
  unfold buildFrom
  rw [hw]
  show extractRoot w' = _
  rw [extractRoot_eq, extractRoot_eq, hc]

theorem extractRoot_of_single {w : Elem} {k : Name} {nec : Nec} {R : Elem}
    (h1 : getChild w.children k = some (nec, R)) (h2 : ∀ d, d ≠ k → getChild w.children d = none) :
    extractRoot w = .ok R := by
  unfold extractRoot
  cases hc : w.children with
  | nil => rw [hc] at h1; cases h1
  | cons c cs =>
    obtain ⟨n, e⟩ := c
    have hname : e.name = k := Decidable.byContradiction fun hk => by
      have := h2 e.name hk
      rw [hc, getChild_cons] at this; simp at this
    simp only [hname, ← hc, h1]

/-- `into_struct` and `extend_struct` at once: the error is the first fault; without one, "no root" is reported
iff the wrapper started without a child and no element starts -/
theorem errOf_buildFrom (w₀ : Elem) (evs : List Ev) :
    errOf (buildFrom w₀ evs) = (firstFault 0 evs).or
      (if w₀.children ≠ [] ∨ hasElement 0 evs = true then none else some .noRoot) := by
  obtain ⟨h1, h2⟩ := run_spec evs { elem := w₀, known := [] } []
  unfold buildFrom
  cases hf : firstFault 0 evs with
  | some e =>
    rw [List.length_nil, hf] at h1
    cases hfin : finish (runEvents (.run [{ elem := w₀, known := [] }]) evs) with
    | ok w => rw [hfin] at h1; cases h1
    | error e' => rw [hfin] at h1; exact h1
  | none =>
    obtain ⟨w, hw, hc⟩ := h2 hf
    rw [hw, Option.none_or]
    show errOf (extractRoot w) = _
    rw [extractRoot_eq]
    have hc : w.children ≠ [] ↔ w₀.children ≠ [] ∨ hasElement 0 evs = true := by simpa [Started] using hc
    simp only [← hc]
    cases w.children <;> rfl

end Xsg
