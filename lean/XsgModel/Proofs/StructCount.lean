import XsgModel.Model.Checks
import XsgModel.Proofs.Sort
import XsgModel.Proofs.SpecOf
import XsgModel.Proofs.Walk
/-!
# One struct per non-`String` position, and nothing else (C03)

The number of structs rendered for a tree is `structCount` of its schema: one for the root and one for every
position that is not typed `String`.
-/
namespace Xsg

theorem absKids_map (cs : List (Nec × Elem)) :
    (Elem.abs.absKids cs).map (·.2) = cs.map fun c => (c.2.name, c.1, !c.2.standalone, c.2.abs) := by
  induction cs with
  | nil => rfl
  | cons c cs ih =>
    obtain ⟨a, e⟩ := c
    simp [Elem.abs.absKids, ih]

theorem abs_kids_perm (cs : List (Nec × Elem)) :
    ((sortKeyed (Elem.abs.absKids cs)).map (·.2)).Perm (cs.map fun c => (c.2.name, c.1, !c.2.standalone, c.2.abs)) := by
  rw [← absKids_map]
  exact (perm_insertionSort _ _).map _

theorem countKids_eq (ks : List (Name × Nec × Bool × Schema)) :
    Schema.structCount.countKids ks = (ks.map fun k => if k.2.2.2.isString then 0 else k.2.2.2.structCount).sum := by
  induction ks with
  | nil => rfl
  | cons k ks ih =>
    obtain ⟨a, b, c, s⟩ := k
    simp [Schema.structCount.countKids, ih]

theorem abs_isString (e : Elem) : e.abs.isString = e.textOnly := by
  cases e with
  | mk n t s c as cs p =>
    simp only [Elem.abs, Schema.isString, Schema.text, Schema.attrs, Schema.kids, Elem.textOnly, Elem.text, Elem.attrs,
      Elem.children, (abs_kids_perm cs).isEmpty_eq, List.isEmpty_map]

theorem abs_structCount (e : Elem) :
    e.abs.structCount = (e.children.map fun c => if c.2.textOnly then 0 else c.2.abs.structCount).sum + 1 := by
  cases e with
  | mk n t st cnt as cs p =>
    simp only [Elem.abs, Schema.structCount, countKids_eq, Elem.children]
    rw [List.Perm.sum_nat ((abs_kids_perm cs).map _), Nat.add_comm]
    simp only [List.map_map, Function.comp_def, abs_isString]

theorem walk_length (s : SortBy) (e : Elem) : ∀ (path trace : List Name), (walk s path trace e).length = e.abs.structCount := by
  induction e using Elem.ind with
  | step e ih =>
    intro path trace
    rw [(walk_perm s path trace e).length_eq, List.length_cons, List.length_flatMap, abs_structCount,
      sum_map_filter _ _ (fun c => c.2.abs.structCount) _ fun c hc _ => ih c hc _ _]
    congr 2
    exact List.map_congr_left fun c _ => by cases c.2.textOnly <;> rfl

end Xsg
