import XsgModel.Model.Parser
import XsgModel.Proofs.Ops
/-! what `parse_tag` does around the recursive call, on the child map: the snapshot of `count_children` and the demotion by
`tag_optional_children` (`toOptional`, `tagOpt`, and `tagOptIn` for one stored child), then the child it starts from
(`openChild`, described by `Opened`) -/
namespace Xsg

theorem slookup_cons (p : Name × Nat) (S : Snapshot) (d : Name) :
    slookup (p :: S) d = if p.1 = d then some p.2 else slookup S d := by
  by_cases h : p.1 = d <;>
    simp only [slookup, List.find?_cons, h, decide_true, decide_false, if_true, if_false, Option.map_some]

theorem slookup_snapshot (C : Elem) (d : Name) (h : (childNames C.children).Nodup) :
    slookup (snapshot C) d = match getChild C.children d with
      | some (.man, D) => some D.count
      | _ => none := by
  unfold snapshot
  generalize C.children = cs at h
  induction cs with
  | nil => rfl
  | cons c cs ih =>
    obtain ⟨nec, D⟩ := c
    have ih := ih (List.nodup_cons.mp h).2
    rw [getChild_cons, List.filterMap_cons]
    by_cases e : D.name = d
    · have hd : getChild cs d = none := getChild_none_iff.mpr (e ▸ (List.nodup_cons.mp h).1)
      rw [hd] at ih
      cases nec
      · simpa [e] using ih
      · simp [e, slookup_cons]
    · cases nec <;> simpa [e, slookup_cons] using ih

theorem slookup_nil (d : Name) : slookup [] d = none := rfl

/-- the test `tag_optional_children` applies to one stored child -/
theorem toOptional_test (S : Snapshot) (x : Nec × Elem) (d : Name) :
    (if x.1 = .man then
        match slookup S x.2.name with
        | some n => if n = x.2.count then some x.2.name else none
        | none => some x.2.name
      else none) = some d ↔
    x.1 = .man ∧ x.2.name = d ∧ (slookup S d = none ∨ slookup S d = some x.2.count) := by
  obtain ⟨nec, D⟩ := x
  cases nec
  · simp
  · cases hs : slookup S D.name with
    | none => simp; rintro rfl; exact Or.inl hs
    | some n =>
      simp only [true_and, if_true]
      constructor
      · intro h; split at h
        · rename_i e; cases h; exact ⟨rfl, Or.inr (by rw [hs, e])⟩
        · cases h
      · rintro ⟨rfl, h⟩; rw [hs] at h; simp at h; simp [h]

theorem mem_toOptional (S : Snapshot) (C : Elem) (d : Name) (h : (childNames C.children).Nodup) :
    d ∈ toOptional S C ↔ ∃ D, getChild C.children d = some (.man, D) ∧ (slookup S d = none ∨ slookup S d = some D.count) := by
  unfold toOptional
  rw [List.mem_filterMap]
  constructor
  · rintro ⟨⟨nec, D⟩, hm, hx⟩
    obtain ⟨rfl, hn, hs⟩ := (toOptional_test S _ d).mp hx
    exact ⟨D, (getChild_eq_some_iff h).mpr ⟨hm, hn⟩, hs⟩
  · rintro ⟨D, hg, hs⟩
    obtain ⟨hm, hn⟩ := (getChild_eq_some_iff h).mp hg
    exact ⟨(.man, D), hm, (toOptional_test S _ d).mpr ⟨rfl, hn, hs⟩⟩

theorem tagOpt_children (S) (C : Elem) : (tagOpt S C).children = (toOptional S C).reverse.foldl setChildOptional C.children := by
  simp [tagOpt]

@[simp] theorem tagOpt_name (S) (C : Elem) : (tagOpt S C).name = C.name := by simp [tagOpt]
@[simp] theorem tagOpt_count (S) (C : Elem) : (tagOpt S C).count = C.count := by cases C; rfl
@[simp] theorem tagOpt_standalone (S) (C : Elem) : (tagOpt S C).standalone = C.standalone := by cases C; rfl
@[simp] theorem tagOpt_text (S) (C : Elem) : (tagOpt S C).text = C.text := by cases C; rfl
@[simp] theorem tagOpt_attrs (S) (C : Elem) : (tagOpt S C).attrs = C.attrs := by cases C; rfl
@[simp] theorem tagOpt_position (S) (C : Elem) : (tagOpt S C).position = C.position := by cases C; rfl

theorem getChild_tagOpt (S) (C : Elem) (d : Name) (h : (childNames C.children).Nodup) :
    getChild (tagOpt S C).children d = if d ∈ toOptional S C then demote (getChild C.children d) else getChild C.children d := by
  rw [tagOpt_children, fold_setChildOptional_getChild _ _ _ h]; simp

theorem nodup_tagOpt (S) (C : Elem) (h : (childNames C.children).Nodup) : (childNames (tagOpt S C).children).Nodup := by
  rw [tagOpt_children]; exact fold_setChildOptional_nodup _ _ h

theorem Inv_tagOpt (S : Snapshot) (c : Elem) (h : c.Inv = true) : (tagOpt S c).Inv = true :=
  Inv_setChildren (fold_setChildOptional_nodup _ _ (Inv_nodup h)) fun _ hd =>
    let ⟨_, hd', e⟩ := mem_fold_setChildOptional _ hd; e ▸ Inv_children h hd'

/-! ### `toOptional` does not look at the position, and `tagOpt []` on an untouched element -/

theorem toOptional_congr (S : Snapshot) {C C' : Elem} (h : C'.children = C.children) : toOptional S C' = toOptional S C := by
  unfold toOptional; rw [h]

theorem tagOpt_children_congr (S : Snapshot) {C C' : Elem} (h : C'.children = C.children) :
    (tagOpt S C').children = (tagOpt S C).children := by
  rw [tagOpt_children, tagOpt_children, toOptional_congr S h, h]

theorem toOptional_snapshot_self (C C0 : Elem) (h : C0.children = C.children) (hnd : (childNames C.children).Nodup) :
    toOptional (snapshot C) C0 = toOptional [] C0 := by
  unfold toOptional
  rw [h]
  apply filterMap_congr_mem
  intro d hd
  by_cases hm : d.1 = Nec.man
  · simp only [hm, if_true, slookup_nil]
    have := slookup_snapshot C d.2.name hnd
    rw [getChild_of_mem_nodup hnd hd] at this
    obtain ⟨nec, D⟩ := d
    simp only at hm; subst hm
    simp only at this
    rw [this]; simp
  · simp [hm]

theorem tagOpt_nil_eq (C C0 : Elem) (h : C0.children = C.children) (hnd : (childNames C.children).Nodup) :
    tagOpt [] C0 = tagOpt (snapshot C) C0 := by
  unfold tagOpt; rw [toOptional_snapshot_self C C0 h hnd]

theorem tagOpt_no_children (S : Snapshot) (C : Elem) (h : C.children = []) : tagOpt S C = C := by
  unfold tagOpt toOptional; rw [h]; simp; rw [← h]; exact setChildren_self C

/-! ### `tagOptIn`: `tagOpt` on one stored child, which is a `modifyFirst` -/

theorem replaceFirst_eq_modifyFirst (cs : List (Nec × Elem)) (n : Name) (c' : Elem) :
    replaceFirst cs n c' = modifyFirst cs n (fun _ => c') := by
  induction cs with
  | nil => rfl
  | cons d ds ih => simp only [replaceFirst, modifyFirst, ih]

theorem tagOptIn_eq_modifyFirst (cs : List (Nec × Elem)) (n : Name) (S : Snapshot) : tagOptIn cs n S = modifyFirst cs n (tagOpt S) := by
  unfold tagOptIn
  split
  · rename_i c h
    rw [replaceFirst_eq_modifyFirst]; exact modifyFirst_congr fun d hd => by rw [h] at hd; cases hd; rfl
  · rename_i h
    exact (modifyFirst_eq_self fun d hd => by rw [h] at hd; cases hd).symm

theorem getChild_tagOptIn (cs : List (Nec × Elem)) (n m : Name) (S : Snapshot) :
    getChild (tagOptIn cs n S) m =
      if m = n then (getChild cs n).map (fun d => (d.1, tagOpt S d.2)) else getChild cs m :=
  tagOptIn_eq_modifyFirst .. ▸ getChild_modifyFirst cs n m _ (tagOpt_name S)

theorem childNames_tagOptIn (cs : List (Nec × Elem)) (n : Name) (S : Snapshot) :
    childNames (tagOptIn cs n S) = childNames cs :=
  tagOptIn_eq_modifyFirst .. ▸ childNames_modifyFirst cs n _ (tagOpt_name S)

theorem length_tagOptIn (cs : List (Nec × Elem)) (n : Name) (S : Snapshot) : (tagOptIn cs n S).length = cs.length :=
  tagOptIn_eq_modifyFirst .. ▸ length_modifyFirst cs n _

theorem tagOptIn_congr {cs : List (Nec × Elem)} {n : Name} {S S' : Snapshot} {d : Nec × Elem} (hd : getChild cs n = some d)
    (h : tagOpt S d.2 = tagOpt S' d.2) : tagOptIn cs n S = tagOptIn cs n S' := by
  rw [tagOptIn_eq_modifyFirst, tagOptIn_eq_modifyFirst]
  exact modifyFirst_congr fun d' hd' => by rw [hd] at hd'; cases hd'; exact h

theorem tagOptIn_eq_self {cs : List (Nec × Elem)} {n : Name} {S : Snapshot} {d : Nec × Elem} (hd : getChild cs n = some d)
    (h : tagOpt S d.2 = d.2) : tagOptIn cs n S = cs := by
  rw [tagOptIn_eq_modifyFirst]
  exact modifyFirst_eq_self fun d' hd' => by rw [hd] at hd'; cases hd'; exact h

/-! ### the child `parse_tag` starts from -/

/-- the child `parse_tag` works on: merged with the stored one, or new -/
def openChild (X : Elem) (known : List Name) (k : Name) (as : List Name) : Elem := (openTag ⟨X, known, none⟩ k as).2

theorem openTag_snd (f : Frame) (k as) : (openTag f k as).2 = openChild f.elem f.known k as := by
  unfold openChild openTag; rfl

theorem openTag_fst (f : Frame) (k as) :
    (openTag f k as).1 = { f with elem := f.elem.setChildren (eraseChild f.elem.children k) } := rfl

/-- what `openChild` makes of the stored entry `old` of `k`: the stored child counted once more and merged with the new
attributes, or a child seen once; `standalone` is lost if `k` was seen before in this parent occurrence -/
structure Opened (old : Option (Nec × Elem)) (known : List Name) (k : Name) (as : List Name) (C0 : Elem) : Prop where
  name : C0.name = k
  children : C0.children = (old.map (·.2.children)).getD []
  count : C0.count = (old.map (·.2.count)).getD 0 + 1
  standalone : C0.standalone = ((old.map (·.2.standalone)).getD true && !known.contains k)
  text : C0.text = (old.map (·.2.text)).getD false
  position : C0.position = old.bind (·.2.position)
  attrs : C0.attrs = match old with
    | some (_, C) => mergeNec C.attrs (as.map fun a => (Nec.man, a))
    | none => as.map fun a => (Nec.man, a)

theorem openChild_spec {X : Elem} {known : List Name} {k : Name} {as : List Name} {old : Option (Nec × Elem)}
    (h : getChild X.children k = old) : Opened old known k as (openChild X known k as) := by
  cases old with
  | none =>
    cases hk : known.contains k <;> simp only [openChild, openTag, h, hk, Bool.false_eq_true, if_false, if_true] <;>
      exact ⟨rfl, rfl, rfl, by rw [hk]; rfl, rfl, rfl, rfl⟩
  | some p =>
    have hn : p.2.name = k := getChild_some_name h
    obtain ⟨nec, ⟨n, t, s, c, a, cs, pos⟩⟩ := p
    subst hn
    cases hk : known.contains (Elem.mk n t s c a cs pos).name <;>
      simp only [openChild, openTag, h, hk, Bool.false_eq_true, if_false, if_true] <;>
      exact ⟨rfl, rfl, rfl, by rw [hk]; cases s <;> rfl, rfl, rfl, rfl⟩

theorem openChild_children_none {X : Elem} {known : List Name} {k : Name} {as : List Name}
    (h : getChild X.children k = none) : (openChild X known k as).children = [] := (openChild_spec h).children

theorem openChild_children_some {X : Elem} {known : List Name} {k : Name} {as : List Name} {p : Nec × Elem}
    (h : getChild X.children k = some p) : (openChild X known k as).children = p.2.children := (openChild_spec h).children

end Xsg
