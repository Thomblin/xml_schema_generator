import XsgModel.Model.Necessity
import XsgModel.Proofs.ListFacts
/-! `mergeNec` in closed form: the names of the result are those of the first list followed by the new names of the
second (`mergeNec_names`), and a name stays mandatory exactly if it is mandatory in both lists (`mergeNec_man_iff`) -/
namespace Xsg

-- the lemmas about `names` alone carry `[DecidableEq α]` like the rest of the file, without using it
set_option linter.unusedSectionVars false

variable {α : Type} [DecidableEq α]

def names (l : List (Nec × α)) : List α := l.map (·.2)

@[simp] theorem names_nil : names ([] : List (Nec × α)) = [] := rfl
@[simp] theorem names_cons (x : Nec × α) (l) : names (x :: l) = x.2 :: names l := rfl
@[simp] theorem names_append (l₁ l₂ : List (Nec × α)) : names (l₁ ++ l₂) = names l₁ ++ names l₂ := by simp [names]

theorem names_map_tag (t : Nec) (l : List α) : names (l.map fun a => (t, a)) = l := by
  simp [names, List.map_map, Function.comp_def]

theorem names_mergeFirst (xs ys : List (Nec × α)) : names (mergeFirst xs ys) = names xs := by
  simp only [names, mergeFirst, List.map_map]
  apply List.map_congr_left
  intro x _
  simp only [Function.comp]
  split <;> (try split) <;> rfl

theorem mergeSecondStep_eq (res : List (Nec × α)) (y : Nec × α) :
    mergeSecondStep res y = if y.2 ∈ names res then res else res ++ [(.opt, y.2)] := by
  have : res.any (fun r => decide (y.2 = r.2)) = decide (y.2 ∈ names res) := by
    rw [Bool.eq_iff_iff, List.any_eq_true, decide_eq_true_iff, names, List.mem_map]
    exact ⟨fun ⟨r, hr, e⟩ => ⟨r, hr, (of_decide_eq_true e).symm⟩, fun ⟨r, hr, e⟩ => ⟨r, hr, decide_eq_true e.symm⟩⟩
  simp [mergeSecondStep, this]

/-- the second pass in closed form: the names not yet present are appended, as optional, in their order -/
theorem foldl_second_eq (res ys : List (Nec × α)) (hys : (names ys).Nodup) :
    ys.foldl mergeSecondStep res = res ++ ((names ys).filter (fun a => a ∉ names res)).map fun a => (Nec.opt, a) := by
  induction ys generalizing res with
  | nil => simp
  | cons y ys ih =>
    simp only [names_cons, List.nodup_cons] at hys
    rw [List.foldl_cons, ih _ hys.2, mergeSecondStep_eq, names_cons]
    split <;> rename_i h
    · simp [h]
    · rw [List.filter_cons_of_pos (by simpa using h), List.map_cons, List.append_assoc, List.singleton_append]
      congr 3
      -- `y` is not among the later names, so having appended it filters out nothing more
      refine List.filter_congr fun a ha => ?_
      have : a ≠ y.2 := fun e => hys.1 (e ▸ ha)
      simp [this]

theorem mem_mergeFirst_man {xs ys : List (Nec × α)} (hys : (names ys).Nodup) (a : α) :
    (Nec.man, a) ∈ mergeFirst xs ys ↔ (Nec.man, a) ∈ xs ∧ (Nec.man, a) ∈ ys := by
  simp only [mergeFirst, List.mem_map]
  constructor
  · rintro ⟨x, hx, h⟩
    split at h
    · rename_i y hy
      split at h
      · -- both `x` and the item `y` found for it are mandatory, and they carry the same payload
        rename_i hc
        cases h
        have h2 : y.2 = x.2 := by simpa using List.find?_some hy
        have hy' : y = (.man, x.2) := Prod.ext hc.1 h2
        exact ⟨(Prod.ext hc.2 rfl : x = (.man, x.2)) ▸ hx, hy' ▸ List.mem_of_find?_eq_some hy⟩
      · cases h
    · cases h
  · rintro ⟨hx, hy⟩
    exact ⟨_, hx, by rw [find?_of_nodup_map (fun y : Nec × α => y.2) ys hys _ hy]; simp⟩

theorem mergeNec_names (xs ys : List (Nec × α)) (hys : (names ys).Nodup) :
    names (mergeNec xs ys) = names xs ++ (names ys).filter (fun a => a ∉ names xs) := by
  rw [mergeNec, foldl_second_eq _ _ hys, names_append, names_mergeFirst, names_map_tag]

theorem mergeNec_man_iff (xs ys : List (Nec × α)) (hys : (names ys).Nodup) (a : α) :
    (Nec.man, a) ∈ mergeNec xs ys ↔ (Nec.man, a) ∈ xs ∧ (Nec.man, a) ∈ ys := by
  simp [mergeNec, foldl_second_eq _ _ hys, mem_mergeFirst_man hys]

theorem nodup_names_mergeNec (xs ys : List (Nec × α)) (hxs : (names xs).Nodup) (hys : (names ys).Nodup) :
    (names (mergeNec xs ys)).Nodup := by
  rw [mergeNec_names xs ys hys, List.nodup_append]
  exact ⟨hxs, hys.filter _, fun a ha b hb e => (of_decide_eq_true (List.mem_filter.mp hb).2) (e ▸ ha)⟩

theorem mem_names_mergeNec (xs ys : List (Nec × α)) (hys : (names ys).Nodup) (a : α) :
    a ∈ names (mergeNec xs ys) ↔ a ∈ names xs ∨ a ∈ names ys := by
  rw [mergeNec_names xs ys hys, List.mem_append, List.mem_filter, decide_eq_true_iff]
  exact ⟨fun h => h.imp_right And.left, fun h => (Decidable.em (a ∈ names xs)).imp_right fun hx => ⟨h.resolve_left hx, hx⟩⟩

/-! ### a tagged list is determined by its names and its mandatory entries -/

theorem tag_unique {l : List (Nec × α)} (h : (names l).Nodup) {m m' : Nec} {a : α}
    (h1 : (m, a) ∈ l) (h2 : (m', a) ∈ l) : m = m' :=
  (Prod.mk.inj (inj_of_nodup_map (fun y : Nec × α => y.2) l h _ h1 _ h2 rfl)).1

theorem tagged_eq_of_names (l : List (Nec × α)) (h : (names l).Nodup) :
    l = (names l).map (fun a => (if (Nec.man, a) ∈ l then Nec.man else Nec.opt, a)) := by
  simp only [names, List.map_map]
  conv => lhs; rw [← List.map_id l]
  apply List.map_congr_left
  intro x hx
  obtain ⟨m, a⟩ := x
  simp only [id, Function.comp]
  cases m with
  | man => simp [hx]
  | opt =>
    have : (Nec.man, a) ∉ l := fun hm => by have := tag_unique h hm hx; cases this
    simp [this]

end Xsg
