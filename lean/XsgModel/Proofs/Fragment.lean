import XsgModel.Proofs.AbsorbSpec
import XsgModel.Proofs.Refine
import XsgModel.Proofs.Faults
/-!
# Inputs that repeat their root element

`quick_xml` does not insist on a single root, and neither does the parser: an input that is a sequence of
well-formed elements of one name `k` (with comments, white space, text between them) is accepted, and the
result is the schema of *all* these elements. Such an input therefore behaves like the corresponding sequence
of single-root documents (`C06_regroup`).  A document is the special case with one such element
(`Proofs/History.lean`).
-/
namespace Xsg

/-- all top-level elements of the input are called `k`, and there is at least one -/
def Items.rootsNamed (is : Items) (k : Name) : Prop := is.named k ≠ [] ∧ ∀ d, d ≠ k → is.named d = []

theorem buildFrom_items (w : Elem) (is : Items) :
    buildFrom w (fragEvents is) = extractRoot (absorbItems ⟨w, [], none⟩ is).elem := by
  unfold buildFrom fragEvents
  rw [runEvents_append, run_items]
  simp [runEvents, step, unwind, finish]

/-- the wrapper `extend_struct` starts from -/
theorem extendWrapper_children (t : Elem) :
    (wrapper0.setChildren (addUniqueChild wrapper0.children t)).children = [(.man, withPosition [] t)] := by
  rw [children_setChildren, addUniqueChild_of_absent (cs := wrapper0.children) rfl]; rfl

/-- one input on a wrapper that holds at most the child `k`: the result is the rebuilt entry of `k` -/
theorem buildFrom_fragment (w : Elem) (hw : (childNames w.children).Nodup) (is : Items) (hok : is.ok = true) (k : Name)
    (hk : is.rootsNamed k) (hw1 : ∀ d, d ≠ k → getChild w.children d = none) :
    ∃ R, buildFrom w (fragEvents is) = .ok R ∧ R.name = k ∧
      match getChild w.children k with
      | some (_, D) => ∀ occs, Matches D occs → Matches R (occs ++ is.named k)
      | none => Matches R (is.named k) := by
  have spec := absorbItems_spec is ⟨w, [], none⟩ hw hok
  have hpost := spec.post k
  rw [Post, if_neg hk.1] at hpost
  obtain ⟨R, hR, hD⟩ := hpost
  refine ⟨R, ?_, getChild_some_name hR, ?_⟩
  · rw [buildFrom_items]
    refine extractRoot_of_single hR fun m hm => ?_
    have := spec.post m
    rw [hk.2 m hm, Post_nil] at this
    rw [this]; exact hw1 m hm
  · revert hD
    cases getChild w.children k with
    | none => exact fun hD => hD.1
    | some p => exact fun hD occs hm => hD.1 occs hm.ne_nil hm

theorem intoStruct_fragment (is : Items) (hok : is.ok = true) (k : Name) (hk : is.rootsNamed k) :
    ∃ R, intoStruct (fragEvents is) = .ok R ∧ Matches R (is.named k) ∧ R.name = k :=
  let ⟨R, hR, hn, hm⟩ := buildFrom_fragment wrapper0 List.nodup_nil is hok k hk fun _ _ => rfl
  ⟨R, hR, hm, hn⟩

theorem extendStruct_fragment (t : Elem) (occs : List Node) (hm : Matches t occs)
    (is : Items) (hok : is.ok = true) (hk : is.rootsNamed t.name) :
    ∃ R, extendStruct t (fragEvents is) = .ok R ∧ Matches R (occs ++ is.named t.name) ∧ R.name = t.name := by
  have hc := extendWrapper_children t
  obtain ⟨R, hR, hn, hmR⟩ := buildFrom_fragment _ (by rw [hc]; simp [childNames]) is hok t.name hk
    (by intro d hd; rw [hc, getChild_singleton, if_neg (by simpa using Ne.symm hd)])
  rw [hc, getChild_singleton, if_pos (name_withPosition _ _)] at hmR
  exact ⟨R, hR, hmR occs (hm.congr (by simp) (by simp) (by simp)), hn⟩

/-- a history of inputs each of which may repeat the root element `k` -/
def fragmentsOk (F : List Items) (k : Name) : Prop :=
  F ≠ [] ∧ ∀ is ∈ F, is.ok = true ∧ is.rootsNamed k

theorem fragments_fold (F : List Items) (t : Elem) (occs : List Node) (hm : Matches t occs)
    (hF : ∀ is ∈ F, is.ok = true ∧ is.rootsNamed t.name) :
    ∃ R, (F.map fragEvents).foldl extendStep (Except.ok t) = Except.ok R ∧
      Matches R (occs ++ F.flatMap (·.named t.name)) ∧ R.name = t.name := by
  induction F generalizing t occs with
  | nil => exact ⟨t, rfl, by simpa using hm, rfl⟩
  | cons is F ih =>
    obtain ⟨R, hR, hmR, hn⟩ := extendStruct_fragment t occs hm is (hF is (by simp)).1 (hF is (by simp)).2
    simp only [List.map_cons, List.foldl_cons, extendStep, hR]
    obtain ⟨R', hR', hmR', hn'⟩ := ih R (occs ++ is.named t.name) hmR
      (fun is' h' => by rw [hn]; exact hF is' (by simp [h']))
    refine ⟨R', hR', ?_, hn'.trans hn⟩
    rw [hn] at hmR'
    simpa [List.append_assoc] using hmR'

/-- the structure after a history of such inputs is the schema of all their top-level elements (`parse_history` is the
case in which every input is a document) -/
theorem parse_fragments (F : List Items) (k : Name) (h : fragmentsOk F k) :
    ∃ t, parseHistory (F.map fragEvents) = .ok t ∧ Matches t (F.flatMap (·.named k)) ∧ t.name = k := by
  cases F with
  | nil => exact absurd rfl h.1
  | cons is F =>
    obtain ⟨R, hR, hm, hn⟩ := intoStruct_fragment is (h.2 is (by simp)).1 k (h.2 is (by simp)).2
    obtain ⟨R', hR', hm', hn'⟩ := fragments_fold F R (is.named k) hm
      (fun is' h' => by rw [hn]; exact h.2 is' (by simp [h']))
    refine ⟨R', ?_, ?_, hn'.trans hn⟩
    · simp only [parseHistory, List.map_cons, hR]; exact hR'
    · rw [hn] at hm'; simpa using hm'

/-- the driver's executable test for `rootsNamed` -/
theorem Items.rootsNamed_of_childNames (is : Items) (k : Name) (h : is.childNames = [k]) : is.rootsNamed k := by
  refine ⟨(Items.mem_childNames is k).mp (by simp [h]), ?_⟩
  intro d hd
  have : d ∉ is.childNames := by simp [h, hd]
  by_cases e : is.named d = []
  · exact e
  · exact absurd ((Items.mem_childNames is d).mpr e) this

end Xsg
