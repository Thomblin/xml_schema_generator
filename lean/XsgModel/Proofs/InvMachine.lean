import XsgModel.Proofs.TagOpt
import XsgModel.Proofs.Faults
/-! the machine keeps child names unique at every depth (`Elem.Inv`), for every event stream -/
namespace Xsg

theorem Inv_closeTag (parent : Frame) (child : Elem) (snap : Option Snapshot)
    (hp : parent.elem.Inv = true) (hc : child.Inv = true) : (closeTag parent child snap).elem.Inv = true := by
  have h1 := Inv_addChild child parent.elem hc hp
  cases snap with
  | none => exact h1
  | some S =>
    have := Inv_modifyFirst child.name _ (tagOpt_name S) (Inv_tagOpt S) h1
    simpa [closeTag, tagOptIn_eq_modifyFirst, setChildren_setChildren] using this

theorem Inv_openTag (f : Frame) (k : Name) (as : List Name) (h : f.elem.Inv = true) :
    (openTag f k as).1.elem.Inv = true ∧ (openTag f k as).2.Inv = true := by
  refine ⟨by rw [openTag_fst]; exact Inv_remove k f.elem h, ?_⟩
  rw [openTag_snd]
  cases hg : getChild f.elem.children k with
  | none => rw [Inv_iff, openChild_children_none hg]; simp [childNames]
  | some p => rw [Inv_congr (openChild_children_some hg)]; exact Inv_children h (getChild_some_mem hg)

/-- every activation's element satisfies the invariant -/
def StInv : St → Prop
  | .run stack => stack ≠ [] ∧ ∀ f ∈ stack, f.elem.Inv = true
  | .done w => w.Inv = true
  | .fail _ => True

theorem StInv_cons {f : Frame} {fs : List Frame} :
    StInv (.run (f :: fs)) ↔ f.elem.Inv = true ∧ ∀ g ∈ fs, g.elem.Inv = true :=
  ⟨fun h => List.forall_mem_cons.mp h.2, fun h => ⟨List.cons_ne_nil _ _, List.forall_mem_cons.mpr h⟩⟩

theorem StInv_init {w : Elem} (hw : w.Inv = true) : StInv (.run [⟨w, [], none⟩]) := StInv_cons.mpr ⟨hw, nofun⟩

theorem Inv_unwind (top : Frame) (rest : List Frame) (ht : top.elem.Inv = true) (hr : ∀ f ∈ rest, f.elem.Inv = true) :
    (unwind top rest).Inv = true := by
  induction rest generalizing top with
  | nil => exact ht
  | cons p rest ih =>
    obtain ⟨hp, hr⟩ := List.forall_mem_cons.mp hr
    exact ih _ (Inv_closeTag p top.elem top.snap hp ht) hr

theorem StInv_step (s : St) (ev : Ev) (h : StInv s) : StInv (step s ev) := by
  match s with
  | .done w => exact h
  | .fail e => exact h
  | .run [] => exact absurd rfl h.1
  | .run (top :: rest) =>
    obtain ⟨htop, hrest⟩ := StInv_cons.mp h
    rw [step_run]
    cases ev.act with
    | fault e => trivial
    | push n ks =>
      exact StInv_cons.mpr ⟨(Inv_openTag top n ks htop).2, List.forall_mem_cons.mpr ⟨(Inv_openTag top n ks htop).1, hrest⟩⟩
    | leaf n ks => exact StInv_cons.mpr ⟨Inv_closeTag _ _ _ (Inv_openTag top n ks htop).1 (Inv_openTag top n ks htop).2, hrest⟩
    | pop =>
      match rest, hrest with
      | [], _ => exact htop
      | p :: rest', hrest =>
        obtain ⟨hp, hrest'⟩ := List.forall_mem_cons.mp hrest
        exact StInv_cons.mpr ⟨Inv_closeTag _ _ _ hp htop, hrest'⟩
    | text => exact StInv_cons.mpr ⟨by rwa [Inv_congr (children_setText _ _)], hrest⟩
    | skip => exact h
    | stop => exact Inv_unwind top rest htop hrest

theorem StInv_run (evs : List Ev) (s : St) (h : StInv s) : StInv (runEvents s evs) :=
  List.foldlRecOn evs (motive := StInv) step h fun s h e _ => StInv_step s e h

theorem Inv_finish {s : St} (h : StInv s) {w : Elem} (hw : finish s = .ok w) : w.Inv = true := by
  cases s with
  | run stack =>
    cases stack with
    | nil => simp [finish] at hw
    | cons top rest =>
      simp only [finish, Except.ok.injEq] at hw
      subst hw
      exact Inv_unwind top rest (StInv_cons.mp h).1 (StInv_cons.mp h).2
  | done w' => simp only [finish, Except.ok.injEq] at hw; subst hw; exact h
  | fail e => simp [finish] at hw

theorem Inv_buildFrom (w : Elem) (hw : w.Inv = true) (evs : List Ev) (t : Elem) (h : buildFrom w evs = .ok t) : t.Inv = true := by
  unfold buildFrom at h
  cases hf : finish (runEvents (.run [⟨w, [], none⟩]) evs) with
  | error e => rw [hf] at h; cases h
  | ok w' =>
    rw [hf] at h
    have hw' : w'.Inv = true := Inv_finish (StInv_run evs _ (StInv_init hw)) hf
    replace h : extractRoot w' = .ok t := h
    rw [extractRoot_eq] at h
    cases hc : w'.children with
    | nil => rw [hc] at h; cases h
    | cons d ds => rw [hc] at h; cases h; exact Inv_children hw' (hc ▸ List.mem_cons_self)

theorem Inv_intoStruct (evs : List Ev) (t : Elem) (h : intoStruct evs = .ok t) : t.Inv = true :=
  Inv_buildFrom wrapper0 (Inv_new _ _) evs t h

theorem Inv_extendStruct (t : Elem) (ht : t.Inv = true) (evs : List Ev) (t' : Elem) (h : extendStruct t evs = .ok t') : t'.Inv = true :=
  Inv_buildFrom _ (Inv_addChild t wrapper0 ht (Inv_new _ _)) evs t' h

/-- a step of a caller that stops at the first error keeps "a tree so far has unique child names" -/
theorem extendStep_inv {acc : Except PErr Elem} (hacc : ∀ t, acc = .ok t → t.Inv = true) (evs : List Ev) :
    ∀ t, extendStep acc evs = .ok t → t.Inv = true := fun t ht => by
  cases acc with
  | error e => cases ht
  | ok t0 => exact Inv_extendStruct t0 (hacc t0 rfl) evs t ht

theorem foldl_extendStep_inv (as : List (List Ev)) (acc : Except PErr Elem) (hacc : ∀ t, acc = .ok t → t.Inv = true) :
    ∀ t, as.foldl extendStep acc = .ok t → t.Inv = true :=
  List.foldlRecOn as (motive := fun acc : Except PErr Elem => ∀ t : Elem, acc = .ok t → t.Inv = true) _ hacc
    fun _ h b _ => extendStep_inv h b

theorem Inv_parseHistory (H : List (List Ev)) (t : Elem) (h : parseHistory H = .ok t) : t.Inv = true := by
  cases H with
  | nil => cases h
  | cons a as => exact foldl_extendStep_inv as _ (Inv_intoStruct a) t h

end Xsg
