import XsgModel.Proofs.FirstAppearance
/-! the executable specification `specOf` computes exactly the schema `Matches` determines -/
namespace Xsg

def toKid (c : Nec × Elem) : Name × Nec × Bool × Schema := (c.2.name, c.1, !c.2.standalone, c.2.abs)

theorem absKids_eq (cs : List (Nec × Elem)) :
    Elem.abs.absKids cs = cs.map (fun c => (SortKey.pos c.2.position, toKid c)) := by
  induction cs with
  | nil => rfl
  | cons c cs ih => obtain ⟨nec, e⟩ := c; simp [Elem.abs.absKids, ih, toKid]

/-- `Elem.abs` sorts the children's schemas by position where `sortOn` sorts the children: sorting by a key commutes with
mapping the payload (`insertionSort_map`) -/
theorem abs_eq (e : Elem) :
    e.abs = .mk e.text e.attrs ((sortOn (fun c : Nec × Elem => SortKey.pos c.2.position) e.children).map toKid) := by
  cases e with
  | mk n t st c as cs p =>
    simp only [Elem.abs, Elem.text, Elem.attrs, Elem.children, absKids_eq, sortOn, sortKeyed]
    congr 1
    have := insertionSort_map (fun (x : SortKey × (Nec × Elem)) => (x.1, toKid x.2))
      (fun a b => a.1.le b.1) (fun (a b : SortKey × Name × Nec × Bool × Schema) => a.1.le b.1) (fun _ _ => rfl)
      (cs.map fun c => (SortKey.pos c.2.position, c))
    simp only [List.map_map, Function.comp_def] at this
    rw [this]
    simp [List.map_map, Function.comp_def]

/-! ### the clauses of `Matches` as the specification computes them -/

theorem AttrsMatch.eq_spec {as : List (Nec × Name)} {occs : List Node} (h : AttrsMatch as occs) :
    as = (dedupNames (occs.flatMap Node.attrs)).map fun a => (if occs.all (fun o => o.attrs.contains a) then Nec.man else .opt, a) := by
  have hn : (names as).Nodup := h.1 ▸ nodup_dedupNames _
  rw [tagged_eq_of_names as hn, h.1]
  refine List.map_congr_left fun a _ => ?_
  simp only [h.2, List.all_eq_true, List.contains_iff_mem]

theorem KidMatches.nec_eq {occs : List Node} {k : Name} {nec : Nec} {c : Elem} (h : KidMatches occs k (some (nec, c))) :
    nec = if occs.all (fun o => !(o.named k).isEmpty) then Nec.man else .opt := by
  have : (occs.all fun o => !(o.named k).isEmpty) = true ↔ nec = .man := by
    rw [h.1, List.all_eq_true]; simp
  split <;> rename_i hb
  · exact this.mp hb
  · cases nec with
    | opt => rfl
    | man => exact absurd (this.mpr rfl) hb

theorem KidMatches.multi_eq {occs : List Node} {k : Name} {nec : Nec} {c : Elem} (h : KidMatches occs k (some (nec, c))) :
    (!c.standalone) = occs.any (fun o => decide (2 ≤ (o.named k).length)) := by
  have : (occs.any fun o => decide (2 ≤ (o.named k).length)) = true ↔ c.standalone = false := by
    rw [h.2.1, List.any_eq_true]; simp
  cases hs : c.standalone with
  | false => exact (this.mpr hs).symm
  | true => exact (Bool.eq_false_iff.mpr fun hb => by rw [this.mp hb] at hs; cases hs).symm

theorem abs_eq_specOf {e : Elem} {occs : List Node} (h : Matches e occs) :
    ∀ fuel, (∀ o ∈ occs, o.depth ≤ fuel) → e.abs = specOf fuel occs := by
  induction h using Matches.induct with
  | step e occs hm ih =>
    intro fuel hdepth
    obtain ⟨o0, ho0⟩ := List.exists_mem_of_ne_nil occs hm.ne_nil
    cases fuel with
    | zero => have := hdepth o0 ho0; have := Node.depth_pos o0; omega
    | succ f =>
      obtain ⟨-, ha, -, hp, hk⟩ := matches_iff.mp hm
      -- children sorted by position are the children in order of first appearance
      rw [abs_eq, specOf, hm.text, ← ha.eq_spec, ← orderOf_eq,
        ← sortOn_position_names e (orderOf occs) hm.nodup hp, List.map_map]
      congr 1
      refine List.map_congr_left fun c hc => ?_
      have hg := getChild_of_mem_nodup hm.nodup (mem_sortOn.mp hc)
      have hkc := hg ▸ hk c.2.name
      have h3 := ih c.2.name c.1 c.2 hg f fun n hn => by
        obtain ⟨o, ho, hno⟩ := List.mem_flatMap.mp hn
        have := node_named_depth o c.2.name n hno
        have := hdepth o ho
        omega
      simp only [Function.comp, toKid, ← hkc.nec_eq, hkc.multi_eq, h3]

theorem matches_abs_eq_specOfDocs {e : Elem} {occs : List Node} (h : Matches e occs) : e.abs = specOfDocs occs := by
  refine abs_eq_specOf h _ fun o ho => ?_
  have := List.le_max?_getD_of_mem (k := 0) (List.mem_map_of_mem (f := Node.depth) ho)
  rw [List.foldl_max]; omega

end Xsg
