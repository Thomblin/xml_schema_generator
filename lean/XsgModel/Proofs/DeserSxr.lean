import XsgModel.Proofs.DeserGen
/-!
# The serde-xml-rs preset and the model of `serde_xml_rs` 0.6.0

The preset binds attributes to their bare names and the text field to `$text`; the deserializer offers
attributes and children under their local names and character data under `$value`.  Inside the property's scope
(`Elem.sxrOK`: names without `:` — hence no prefixes and no `xmlns:` attributes — and without `$`, attribute
names of a position distinct from each other and from its child names; `VNode.adjacentOK`: repeated children
adjacent) the two are linked *except for the text key*: `fed = false`.  So `from_str` succeeds and keeps every
attribute value and the character data of every `String`-typed element, and drops the character data of every
element rendered as a struct — known finding K1, here as a theorem about the model.
-/
namespace Xsg

abbrev oS : Options := Options.serdeXmlRs
abbrev cS : DeCfg := DeCfg.serdeXmlRs

def plainName (k : Name) : Bool := k.all (fun c => c != ':' && c != '$')

theorem afterColon_plain : ∀ k : Name, ':' ∉ k → afterColon k = none
  | [], _ => rfl
  | c :: cs, h => by
    simp only [afterColon]
    rw [if_neg fun (e : c = ':') => h (e ▸ List.mem_cons_self)]
    exact afterColon_plain cs fun hm => h (List.mem_cons_of_mem _ hm)

theorem plain_not_mem {k : Name} (h : plainName k = true) : ':' ∉ k ∧ '$' ∉ k := by
  simp only [plainName, List.all_eq_true, Bool.and_eq_true, bne_iff_ne, ne_eq] at h
  exact ⟨fun hc => (h _ hc).1 rfl, fun hc => (h _ hc).2 rfl⟩

theorem removeNamespace_plain {k : Name} (h : plainName k = true) : removeNamespace k = k := by
  simp [removeNamespace, afterColon_plain k (plain_not_mem h).1]

theorem isPrefixOf_colon : ∀ (p k : Name), ':' ∈ p → p.isPrefixOf k = true → ':' ∈ k
  | _, _, hm, h => (List.isPrefixOf_iff_prefix.mp h).mem hm

theorem attrLocal_plain {k : Name} (h : plainName k = true) : attrLocal k = k := by
  unfold attrLocal
  split
  · rfl
  · exact removeNamespace_plain h

theorem plain_ne_text {k : Name} (h : plainName k = true) : k ≠ cl!"$text" := by
  intro e; apply (plain_not_mem h).2; rw [e]; simp

theorem plain_ne_value {k : Name} (h : plainName k = true) : k ≠ cl!"$value" := by
  intro e; apply (plain_not_mem h).2; rw [e]; simp

/-- the scope of C13 on the tree: plain names; attribute names distinct from each other and from the child names.
`sxrOK`, `adjacentOK` and `inModel` are the hypotheses of the theorems.  The driver evaluates the model's
`Node.sxrScope` (with `Items.adjacentRepeats`) and `Node.dataOriented` on every document; no lemma relates the two
sets. -/
def Elem.sxrOK : Elem → Bool
  | .mk _ _ _ _ as cs _ =>
    as.all (fun a => plainName a.2) && cs.all (fun c => plainName c.2.name) && decide ((as.map (·.2)).Nodup) &&
    as.all (fun a => cs.all (fun c => decide (a.2 ≠ c.2.name))) && sxrKids cs
where
  sxrKids : List (Nec × Elem) → Bool
    | [] => true
    | (_, e) :: rest => e.sxrOK && sxrKids rest

theorem Elem.sxrKids_eq (cs : List (Nec × Elem)) : Elem.sxrOK.sxrKids cs = cs.all (fun c => c.2.sxrOK) :=
  all_of_rec rfl (fun _ _ => rfl) cs

theorem sxrOK_iff (e : Elem) : e.sxrOK = true ↔
    (∀ a ∈ names e.attrs, plainName a = true) ∧ (∀ c ∈ e.children, plainName c.2.name = true) ∧ (names e.attrs).Nodup ∧
    (∀ a ∈ names e.attrs, ∀ c ∈ e.children, a ≠ c.2.name) ∧ ∀ c ∈ e.children, c.2.sxrOK = true := by
  cases e with
  | mk n t s c as cs p =>
    simp only [Elem.sxrOK, Bool.and_eq_true, decide_eq_true_eq, Elem.sxrKids_eq, List.all_eq_true, Elem.attrs, Elem.children, names,
      List.mem_map, forall_exists_index, and_imp, forall_apply_eq_imp_iff₂]
    constructor
    · rintro ⟨⟨⟨⟨h1, h2⟩, h3⟩, h4⟩, h5⟩; exact ⟨h1, h2, h3, h4, h5⟩
    · rintro ⟨h1, h2, h3, h4, h5⟩; exact ⟨⟨⟨⟨h1, h2⟩, h3⟩, h4⟩, h5⟩

mutual
/-- the scope of C13 on a document: the children with one name are adjacent, at every element -/
def VNode.adjacentOK : VNode → Bool
  | .mk _ _ _ items => items.elems.all (fun c => contiguous (fun d : VNode => decide (d.name = c.name)) items.elems) && items.adjacentOK
def VItems.adjacentOK : VItems → Bool
  | .nil => true
  | .elem n r => n.adjacentOK && r.adjacentOK
  | .text _ _ r => r.adjacentOK
  | .other _ r => r.adjacentOK
end

theorem VItems.adjacentOK_eq_all : ∀ items : VItems, items.adjacentOK = items.elems.all VNode.adjacentOK
  | .nil => rfl
  | .elem n r => by rw [VItems.adjacentOK, VItems.elems, List.all_cons, VItems.adjacentOK_eq_all r]
  | .text _ _ r | .other _ r => VItems.adjacentOK_eq_all r

/-! on plain names the keys `serde_xml_rs` offers and the serde names the preset gives are the names themselves -/

theorem oS_attrName {a : Name} (h : plainName a = true) : oS.attrPrefix ++ attrLocal a = a := by
  rw [attrLocal_plain h]; rfl

/-- the text key `$value` is none of the preset's serde names: `fed = false` -/
theorem keys_sxr {e : Elem} (hk : e.sxrOK = true) (hinv : e.Inv = true) : Keys oS cS false e := by
  obtain ⟨hpA, hpC, hndA, hdis, _⟩ := (sxrOK_iff e).mp hk
  refine { attrs_nodup := ?_, kids_nodup := ?_, attr_ne_text := ?_, attr_ne_kid := ?_, text_ne_kid := ?_, attrKey_eq := ?_,
           elemKey_eq := fun _ _ => rfl, text_fed := (fun h => nomatch h), text_unfed := fun _ => ⟨by decide, ?_, ?_⟩ }
  · have : (names e.attrs).map (fun a => oS.attrPrefix ++ attrLocal a) = names e.attrs :=
      (List.map_congr_left fun a ha => oS_attrName (hpA a ha)).trans (List.map_id _)
    rw [this]; exact hndA
  · have : (childNames e.children).map removeNamespace = childNames e.children := by
      refine (List.map_congr_left fun a ha => ?_).trans (List.map_id _)
      obtain ⟨c, hc, rfl⟩ := List.mem_map.mp ha
      exact removeNamespace_plain (hpC c hc)
    rw [this]; exact Inv_nodup hinv
  · intro a ha
    rw [oS_attrName (hpA a ha)]
    exact plain_ne_text (hpA a ha)
  · intro a ha c hc
    rw [oS_attrName (hpA a ha), removeNamespace_plain (hpC c hc)]
    exact hdis a ha c hc
  · intro c hc
    rw [removeNamespace_plain (hpC c hc)]
    exact (plain_ne_text (hpC c hc)).symm
  · intro a ha
    exact (removeNamespace_plain (hpA a ha)).trans (oS_attrName (hpA a ha)).symm
  · intro a ha
    rw [oS_attrName (hpA a ha)]
    exact (plain_ne_value (hpA a ha)).symm
  · intro c hc
    rw [removeNamespace_plain (hpC c hc)]
    exact (plain_ne_value (hpC c hc)).symm

theorem VNode.adjacentOK_elems {n : VNode} (h : n.adjacentOK = true) :
    (∀ c ∈ n.items.elems, contiguous (fun d : VNode => decide (d.name = c.name)) n.items.elems = true) ∧
    ∀ c ∈ n.items.elems, c.adjacentOK = true := by
  cases n
  simp only [VNode.adjacentOK, Bool.and_eq_true, VItems.adjacentOK_eq_all, List.all_eq_true] at h
  exact h

/-- repeated children adjacent: the children of one name are contiguous, also a name that does not occur -/
theorem contiguous_of_adjacentOK {n : VNode} (hadj : n.adjacentOK = true) (k : Name) :
    contiguous (fun d : VNode => decide (d.name = k)) n.items.elems = true := by
  by_cases hex : ∃ d ∈ n.items.elems, d.name = k
  · obtain ⟨d, hd, rfl⟩ := hex
    exact (VNode.adjacentOK_elems hadj).1 d hd
  · exact contiguous_none _ _ fun d hd => decide_eq_false fun e' => hex ⟨d, hd, e'⟩

def scopeSxr : Scope oS cS false where
  PE := fun e => e.sxrOK = true
  PN := fun n => n.adjacentOK = true
  PE_child := fun e c h hc => by obtain ⟨-, -, -, -, hkids⟩ := (sxrOK_iff e).mp h; exact hkids c hc
  PN_child := fun _ c h hc => (VNode.adjacentOK_elems h).2 c hc
  link := fun e n hk hn hinv hadm => (keys_sxr hk hinv).link hadm.withValues (fun _ c _ => contiguous_of_adjacentOK hn c.2.name)
    (fun h => by cases h)
  bounds := fun hints names' _ hk hinv => (keys_sxr hk hinv).bounds hints names'

/-- The serde-xml-rs deserializer model returns a value for every admitted document element in scope that is well-formed
and inside the model, and the non-empty strings of the value are, as a multiset, the attribute values and the character
data of `String`-typed elements. -/
theorem deNode_sxr (t : Elem) (htInv : t.Inv = true) (n : VNode) (en : Entry)
    (hen : en ∈ walk oS.sort [] [] t) (hk : en.elem.sxrOK = true) (hadj : n.adjacentOK = true) (hinv : en.elem.Inv = true)
    (hadm : Admits en.elem n.erase) (hok : n.erase.ok = true) (hmodel : n.inModel cS = true) :
    ∃ v, deNode cS ((renderAST oS t).map StructDef.plain) false
      (structNameOf (hintOf (fillNames [] t)) (structNames (hintOf (fillNames [] t)) t) en.path en.trace en.elem) n = .ok v ∧
      (ne v.strings).Perm (ne (n.kept false cS en.elem)) :=
  deNode_gen oS cS false rfl scopeSxr t htInv false (fun h => by cases h) n en hen hk hadj hinv hadm hok hmodel

end Xsg
