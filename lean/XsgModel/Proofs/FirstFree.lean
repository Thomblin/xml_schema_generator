import XsgModel.Model.Names
import XsgModel.Proofs.CharLemmas
import XsgModel.Proofs.ListFacts
/-! decimal suffixes are pairwise distinct (`dec_injective`), so the suffix loops `while used.contains(name) { i += 1; … }`
terminate and return an unused name -/
namespace Xsg

/-- the number a decimal rendering stands for: the left inverse of `dec` from which `dec_injective` follows -/
def digitVal (l : List Char) : Nat := l.foldl (fun acc c => 10 * acc + (c.toNat - 48)) 0

theorem digitVal_append (l : List Char) (c : Char) : digitVal (l ++ [c]) = 10 * digitVal l + (c.toNat - 48) := by
  simp [digitVal, List.foldl_append]

theorem digit_toNat (d : Nat) (h : d < 10) : (Char.ofNat (48 + d)).toNat = 48 + d := toNat_ofNat _ (by omega)

theorem digit_isDigit (d : Nat) (h : d < 10) : isDigit (Char.ofNat (48 + d)) = true := by
  rw [isDigit_iff, digit_toNat d h]; exact ⟨Nat.le_add_right 48 d, Nat.add_le_add_left (Nat.le_of_lt_succ h) 48⟩

theorem decDigits_val (fuel n : Nat) (h : n < fuel) : digitVal (decDigits fuel n) = n := by
  induction fuel generalizing n with
  | zero => omega
  | succ fuel ih =>
    unfold decDigits
    split
    · rename_i h10
      simp [digitVal, digit_toNat n h10]
    · rename_i h10
      rw [digitVal_append, ih (n / 10) (by omega), digit_toNat (n % 10) (by omega)]
      omega

theorem decDigits_all (fuel n : Nat) : (decDigits fuel n).all isDigit = true := by
  induction fuel generalizing n with
  | zero => rfl
  | succ fuel ih =>
    unfold decDigits
    split
    · rename_i h10; simp [digit_isDigit n h10]
    · simp [ih, digit_isDigit (n % 10) (by omega)]

theorem dec_all_digits (n : Nat) : (dec n).all isDigit = true := decDigits_all _ _

theorem dec_injective {m n : Nat} (h : dec m = dec n) : m = n := by
  have hm := decDigits_val (m + 1) m (by omega)
  have hn := decDigits_val (n + 1) n (by omega)
  unfold dec at h
  rw [h] at hm
  omega

theorem append_dec_injective (base : Name) : ∀ i j, base ++ dec i = base ++ dec j → i = j := by
  intro i j h; exact dec_injective (List.append_cancel_left h)

theorem firstFree_cases (used : List Name) (base : Name) (cand : Nat → Name) :
    firstFree used base cand = base ∨ base ∈ used ∧ ∃ i, 1 ≤ i ∧ firstFree used base cand = cand i := by
  unfold firstFree
  split
  · exact .inl rfl
  · next hb =>
    split
    · next i _ => exact .inr ⟨by simpa using hb, i + 1, Nat.le_add_left 1 i, rfl⟩
    · exact .inl rfl

theorem firstFree_of_not_mem {used : List Name} {base : Name} (h : base ∉ used) (cand : Nat → Name) :
    firstFree used base cand = base := by
  simp [firstFree, h]

/-- if the base is in use the loop runs: it returns the candidate with the least free index, which exists among the
first `used.length + 1` (so after at most `used.length + 1` increments), the candidates being pairwise distinct -/
theorem firstFree_of_mem {used : List Name} {base : Name} (h : base ∈ used) (cand : Nat → Name)
    (hinj : ∀ i j, cand i = cand j → i = j) :
    ∃ i, i < used.length + 1 ∧ firstFree used base cand = cand (i + 1) ∧ cand (i + 1) ∉ used ∧
      ∀ j < i, cand (j + 1) ∈ used := by
  unfold firstFree
  simp only [List.contains_iff_mem, h, not_true_eq_false, if_false]
  cases hf : (List.range (used.length + 1)).find? fun i => decide (cand (i + 1) ∉ used) with
  | some i =>
    exact ⟨i, List.mem_range.mp (List.mem_of_find?_eq_some hf), rfl, by simpa using List.find?_some hf,
      fun j hj => by simpa using find?_range_least hf j hj⟩
  | none =>
    exact absurd (fun i hi => by simpa using List.find?_eq_none.mp hf i (List.mem_range.mpr hi))
      (not_all_mem_of_injective used (fun i => cand (i + 1)) fun i j h => Nat.succ.inj (hinj _ _ h))

theorem firstFree_not_mem (used : List Name) (base : Name) (cand : Nat → Name)
    (hinj : ∀ i j, cand i = cand j → i = j) : firstFree used base cand ∉ used := by
  by_cases hb : base ∈ used
  · obtain ⟨i, _, e, h, _⟩ := firstFree_of_mem hb cand hinj
    rwa [e]
  · rwa [firstFree_of_not_mem hb]

end Xsg
