import XsgModel.Proofs.DeserBasics
import XsgModel.Proofs.ListFacts
/-!
# The deserializer model on one element: from what a key offers to the value of a field, from the fields to the struct

Nothing here knows the renderer.  `fieldValAt_scalar` / `fieldValAt_kids`: the value a field gets under a key, from the
attributes, the character data and the child elements the document element offers under that key (`srcStrings`).
`assemble_ok`: a struct whose fields' serde names are distinct and cover the keys the element offers is assembled, and
its value holds exactly the element's strings (`srcStrings_partition`: distinct covering keys partition them).
-/
namespace Xsg

theorem Val.strings_str (s : Str) : (Val.str s).strings = [s] := by simp [Val.strings]
theorem Val.strings_none : Val.none.strings = [] := by simp [Val.strings]
theorem Val.strings_some (v : Val) : (Val.some v).strings = v.strings := by simp [Val.strings]
theorem Val.strings_seq (vs : List Val) : (Val.seq vs).strings = stringsList vs := by simp [Val.strings]
theorem Val.strings_struct (nm : Name) (fs : List (Name × Val)) : (Val.struct nm fs).strings = stringsFields fs := by
  simp [Val.strings]

/-- without the empty strings (`<e/>` read as a `String` gives `""`, which no document value corresponds to) -/
def ne (l : List Str) : List Str := l.filter (fun s => !s.isEmpty)

theorem ne_append (a b : List Str) : ne (a ++ b) = ne a ++ ne b := by simp [ne]
theorem ne_perm {a b : List Str} (h : a.Perm b) : (ne a).Perm (ne b) := h.filter _

/-- the result is a value, and its non-empty strings are those of `S` (as a multiset) -/
def Yields (r : Except DeErr Val) (S : List Str) : Prop := ∃ v, r = .ok v ∧ (ne v.strings).Perm (ne S)

/-- `Option` wraps the value and adds no string -/
theorem Yields.opt {r S} (h : Yields r S) (b : Bool) : Yields (r.map fun v => if b then .some v else v) S := by
  obtain ⟨v, rfl, hs⟩ := h
  exact ⟨_, rfl, by split <;> simpa [Val.strings_some] using hs⟩

theorem contiguous_map {α β : Type} (f : α → β) (p : β → Bool) (l : List α) :
    contiguous p (l.map f) = contiguous (p ∘ f) l := by
  unfold contiguous
  have e1 : (fun a => !p a) ∘ f = fun a => !(p ∘ f) a := rfl
  rw [List.dropWhile_map, List.dropWhile_map, List.any_map, e1]

theorem contiguous_congr {α : Type} (p q : α → Bool) (l : List α) (h : ∀ x ∈ l, p x = q x) :
    contiguous p l = contiguous q l := by
  -- contiguity is a property of the list of truth values
  have e : ∀ r : α → Bool, contiguous r l = contiguous id (l.map r) := fun r => (contiguous_map r id l).symm
  rw [e p, e q, List.map_congr_left h]

theorem contiguous_none {α : Type} (p : α → Bool) (l : List α) (h : ∀ x ∈ l, p x = false) : contiguous p l = true := by
  unfold contiguous
  simp only [Bool.not_eq_true', List.any_eq_false]
  intro x hx
  have hx2 := List.dropWhile_subset _ (List.dropWhile_subset _ hx)
  simp [h x hx2]

/-- the strings of the document element offered under one key -/
def srcStrings (cfg : DeCfg) (G : VNode → List Str) (n : VNode) (txt : Option Str) (key : Name) : List Str :=
  (n.attrs.filter (fun x => cfg.attrKey x.1 = key)).map (·.2)
  ++ (if cfg.textKey = key then txt.toList else [])
  ++ (n.items.elems.filter (fun d => cfg.elemKey d.name = key)).flatMap G

section field
-- `K c`: what the deserializer makes of the child element `c` (in the end `kidRes`);
-- `G c`: the strings its value is to hold (in the end `keptChild`)
variable {cfg : DeCfg} {f : PField} {key : Name} {n : VNode} {txt : Option Str} {K : VNode → KidRes} {G : VNode → List Str}

theorem collectVals_ok (K : VNode → KidRes) (G : VNode → List Str) : ∀ L : List VNode,
    (∀ d ∈ L, Yields (K d).val (G d)) →
    ∃ vs, collectVals (L.map K) = .ok vs ∧ (ne (stringsList vs)).Perm (ne (L.flatMap G))
  | [], _ => ⟨[], rfl, by simp [stringsList]⟩
  | d :: ds, h => by
    obtain ⟨v, hv, hp⟩ := h d (by simp)
    obtain ⟨vs, hvs, hps⟩ := collectVals_ok K G ds (fun d' hd' => h d' (by simp [hd']))
    refine ⟨v :: vs, by simp [collectVals, hv, hvs], ?_⟩
    simp only [stringsList, List.flatMap_cons, ne_append]
    exact hp.append hps

variable (hkey : ∀ c, (K c).key = cfg.elemKey c.name)
include hkey

theorem kids_filter (key : Name) :
    (n.items.elems.map K).filter (fun k => k.key = key) = (n.items.elems.filter (fun d => cfg.elemKey d.name = key)).map K := by
  rw [List.filter_map]
  congr 1
  exact List.filter_congr fun d _ => by simp [hkey]

/-- a `String` field: at most one attribute value or text run is offered under the key, and no child element.
`A` and `T` are free so that a caller can first rewrite the filter to what it knows of it (`fieldVal_attr`: the
attributes of one name). -/
theorem fieldValAt_scalar {A : List (Name × Str)} {T : List Str}
    (hA : n.attrs.filter (fun a => cfg.attrKey a.1 = key) = A)
    (hT : (if cfg.textKey = key then txt.toList else []) = T)
    (hE : ∀ d ∈ n.items.elems, cfg.elemKey d.name ≠ key)
    (hlen : A.length + T.length ≤ 1) (hv : f.vec = false) (hb : f.base = stringTy)
    (hreq : f.opt = false → A ≠ [] ∨ T ≠ []) :
    Yields (fieldValAt cfg f key n.attrs txt (n.items.elems.map K)) (srcStrings cfg G n txt key) := by
  unfold fieldValAt srcStrings
  rw [kids_filter hkey, hA, hT, List.filter_eq_nil_iff.mpr fun d hd => by simpa using hE d hd]
  have one : ∀ s : Str, Yields (if f.vec || f.base ≠ stringTy then Except.error DeErr.shape
      else Except.ok (if f.opt then optOfStr s else .str s)) [s] := fun s =>
    ⟨if f.opt then optOfStr s else .str s, by simp [hv, hb], by split <;> exact .refl _⟩
  rcases A with _ | ⟨a, A⟩ <;> rcases T with _ | ⟨t, T⟩
  · cases ho : f.opt
    · exact (hreq ho).elim (absurd rfl) (absurd rfl)
    · exact ⟨.none, rfl, .refl _⟩
  · obtain rfl : T = [] := by simpa using hlen
    exact one t
  · obtain rfl : A = [] := by simpa using hlen
    exact one a.2
  · exact absurd hlen (by simp only [List.length_cons]; omega)

/-- a field fed from child elements `L` (and nothing else): each gives a value; a non-`Vec` field gets at most one,
a non-`Option` field at least one; for a `Vec` the elements have one name and are adjacent where that matters -/
theorem fieldValAt_kids {L : List VNode}
    (hA : ∀ x ∈ n.attrs, cfg.attrKey x.1 ≠ key) (hT : cfg.textKey ≠ key)
    (hE : n.items.elems.filter (fun d => cfg.elemKey d.name = key) = L)
    (hval : ∀ d ∈ L, Yields (K d).val (G d))
    (hreq : f.opt = false → L ≠ []) (hsingle : f.vec = false → L.length ≤ 1)
    (hq : ∀ d ∈ L, ∀ d' ∈ L, (K d).qname = (K d').qname)
    (hcont : cfg.adjacent = true → contiguous (fun k' : KidRes => decide (k'.key = key)) (n.items.elems.map K) = true) :
    Yields (fieldValAt cfg f key n.attrs txt (n.items.elems.map K)) (srcStrings cfg G n txt key) := by
  unfold fieldValAt srcStrings
  rw [kids_filter hkey, List.filter_eq_nil_iff.mpr fun x hx => by simpa using hA x hx, if_neg hT, hE, List.map_nil,
    List.nil_append, List.nil_append]
  match L, hval, hreq, hsingle, hq with
  | [], _, hreq, _, _ =>
    cases ho : f.opt
    · exact absurd rfl (hreq ho)
    · exact ⟨.none, rfl, .refl _⟩
  | d :: ds, hval, _, hsingle, hq =>
    cases hv : f.vec
    · obtain rfl : ds = [] := by simpa using hsingle hv
      simpa using (hval d (by simp)).opt f.opt
    · obtain ⟨vs, hvs, hp⟩ := collectVals_ok K G (d :: ds) hval
      have hq' : (ds.map K).all (fun k' => k'.qname = (K d).qname) = true := by
        simp only [List.all_map, List.all_eq_true, Function.comp, decide_eq_true_eq]
        exact fun x hx => hq x (by simp [hx]) d (by simp)
      have hc : (!cfg.adjacent || contiguous (fun k' : KidRes => decide (k'.key = key)) (n.items.elems.map K)) = true := by
        cases ha : cfg.adjacent
        · rfl
        · simpa using hcont ha
      have hs : Yields (seqOf (K d :: ds.map K)) ((d :: ds).flatMap G) :=
        ⟨.seq vs, by rw [seqOf, ← List.map_cons, hvs], by rw [Val.strings_seq]; exact hp⟩
      simpa [hq', hc] using hs.opt f.opt

end field

theorem fieldVals_ok (cfg : DeCfg) (attrs : List (Name × Str)) (txt : Option Str) (kids : List KidRes) (S : PField → List Str) :
    ∀ (fs : List PField) (seen : List Name), (fs.map PField.bound').Nodup → (∀ f ∈ fs, f.bound' ∉ seen) →
      (∀ f ∈ fs, Yields (fieldVal cfg f attrs txt kids) (S f)) →
      ∃ fv, fieldVals cfg attrs txt kids seen fs = .ok fv ∧ (ne (stringsFields fv)).Perm (ne (fs.flatMap S))
  | [], _, _, _, _ => ⟨[], rfl, by simp [stringsFields]⟩
  | f :: fs, seen, hnd, hseen, hv => by
    simp only [List.map_cons, List.nodup_cons] at hnd
    obtain ⟨v, hfv, hp⟩ := hv f (by simp)
    have hns : f.bound' ∉ seen := hseen f (by simp)
    obtain ⟨rest, hrest, hpr⟩ := fieldVals_ok cfg attrs txt kids S fs (f.bound' :: seen) hnd.2
      (fun g hg => List.not_mem_cons_of_ne_of_not_mem (fun e' => hnd.1 (e' ▸ List.mem_map_of_mem hg))
        (hseen g (List.mem_cons_of_mem _ hg)))
      (fun g hg => hv g (List.mem_cons_of_mem _ hg))
    refine ⟨(f.bound', v) :: rest, by simp [fieldVals, hns, hfv, hrest], ?_⟩
    simp only [stringsFields, List.flatMap_cons, ne_append]
    exact hp.append hpr

section struct
-- `fed`: the deserializer's text key is the serde name of a field, so character data reaches the struct
variable {cfg : DeCfg} {fed : Bool} {n : VNode} {G : VNode → List Str} {keys : List Name}

/-- distinct keys that cover what the element offers partition it; character data is among it iff `fed` -/
theorem srcStrings_partition (hnd : keys.Nodup) (tx1 : (cfg.texts n.items).length ≤ 1)
    (hA : ∀ x ∈ n.attrs, cfg.attrKey x.1 ∈ keys) (hE : ∀ c ∈ n.items.elems, cfg.elemKey c.name ∈ keys)
    (hfed : fed = true → cfg.texts n.items ≠ [] → cfg.textKey ∈ keys) (hunfed : fed = false → cfg.textKey ∉ keys) :
    (keys.flatMap (srcStrings cfg G n (cfg.texts n.items).head?)).Perm
      (n.attrs.map (·.2) ++ (if fed then cfg.texts n.items else []) ++ n.items.elems.flatMap G) := by
  unfold srcStrings
  refine (flatMap_append_perm _ _ _).trans (((flatMap_append_perm _ _ _).append_right _).trans ?_)
  refine (List.Perm.append ?_ ?_).append (partition_flatMap_perm (fun d : VNode => cfg.elemKey d.name) G _ hnd _ hE)
  · simpa only [List.map_flatMap] using (partition_perm (fun x : Name × Str => cfg.attrKey x.1) _ hnd n.attrs hA).map (·.2)
  · -- character data: one report at most, under one key at most
    cases hf : fed
    · exact List.Perm.of_eq (List.flatMap_eq_nil_iff.mpr fun k hk => if_neg fun (e : cfg.textKey = k) => hunfed hf (e ▸ hk))
    · rcases len_le_one_cases _ tx1 with h0 | ⟨s, h1⟩
      · rw [h0]; exact List.Perm.of_eq (by simp)
      · have := partition_perm (fun _ : Str => cfg.textKey) _ hnd [s] (fun _ _ => hfed hf (by simp [h1]))
        rw [h1]
        refine (List.Perm.of_eq (flatMap_congr_mem _ _ _ fun k _ => ?_)).trans this
        rw [filter_const]
        by_cases hkk : cfg.textKey = k <;> simp [hkk]

theorem findField_isSome {fs : List PField} {key : Name} (h : key ∈ fs.map PField.bound') : (findField fs key).isSome = true := by
  obtain ⟨f, hf, hk⟩ := List.mem_map.mp h
  exact List.find?_isSome.mpr ⟨f, hf, by simp [hk]⟩

/-- one element: if the serde names of the struct's fields are distinct and cover what the element offers, and every
field gets a value holding what is offered under its name, the struct is assembled (with `deny_unknown_fields` only if
character data is fed) and holds all the element's strings -/
theorem assemble_ok {sd : PStruct} {K : VNode → KidRes} (hkey : ∀ c, (K c).key = cfg.elemKey c.name)
    (hnd : (sd.fields.map PField.bound').Nodup) (tx1 : (cfg.texts n.items).length ≤ 1)
    (hA : ∀ x ∈ n.attrs, cfg.attrKey x.1 ∈ sd.fields.map PField.bound')
    (hE : ∀ c ∈ n.items.elems, cfg.elemKey c.name ∈ sd.fields.map PField.bound')
    (hfed : fed = true → cfg.texts n.items ≠ [] → cfg.textKey ∈ sd.fields.map PField.bound')
    (hunfed : fed = false → cfg.textKey ∉ sd.fields.map PField.bound')
    (hvals : ∀ f ∈ sd.fields, Yields (fieldVal cfg f n.attrs (cfg.texts n.items).head? (n.items.elems.map K))
      (srcStrings cfg G n (cfg.texts n.items).head? f.bound'))
    (deny : Bool) (hdeny : deny = true → fed = true) :
    Yields (assemble cfg deny sd n.attrs (cfg.texts n.items).head? (n.items.elems.map K))
      (n.attrs.map (·.2) ++ (if fed then cfg.texts n.items else []) ++ n.items.elems.flatMap G) := by
  obtain ⟨fv, hfv, hp⟩ := fieldVals_ok cfg _ _ _ (fun f => srcStrings cfg G n (cfg.texts n.items).head? f.bound') _ [] hnd
    (by simp) hvals
  have hknown : deny = true → allKnown cfg sd.fields n.attrs (cfg.texts n.items).head? (n.items.elems.map K) = true := by
    intro hd
    simp only [allKnown, Bool.and_eq_true, List.all_eq_true, Bool.or_eq_true, List.mem_map, forall_exists_index, and_imp,
      forall_apply_eq_imp_iff₂, hkey]
    refine ⟨⟨fun x hx => findField_isSome (hA x hx), ?_⟩, fun c hc => findField_isSome (hE c hc)⟩
    cases htx : cfg.texts n.items with
    | nil => exact Or.inl rfl
    | cons s r => exact Or.inr (findField_isSome (hfed (hdeny hd) (by simp [htx])))
  refine ⟨.struct sd.name fv, ?_, ?_⟩
  · unfold assemble
    cases hd : deny <;> simp [hknown, hd, hfv, Except.map]
  · rw [Val.strings_struct]
    refine hp.trans (ne_perm ?_)
    rw [← List.flatMap_map]
    exact srcStrings_partition hnd tx1 hA hE hfed hunfed

end struct

end Xsg
