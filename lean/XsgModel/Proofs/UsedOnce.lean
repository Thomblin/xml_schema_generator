import XsgModel.Model.RustSyntax
import XsgModel.Proofs.IdentMap
import XsgModel.Proofs.StructNames
/-!
# Every non-root struct is the type of exactly one field (last clause of C04), for trees with unique child names and every hint lookup

Up to order, the entries of the walk other than the first are the child entries of all entries
(`walk_tail_kidEntries`).
The fields of one struct whose type is a given struct name correspond to the child entries with that name
(`uses_in_struct`); so the uses of a name in the whole program are counted over the non-root entries, among which
struct names are pairwise distinct.
-/
namespace Xsg

/-- the fields of a struct whose type is the struct `n` are those of the struct-bearing children named `n` -/
theorem uses_in_struct (o : Options) (H : Name → Option Nat) (names' : List (List Name × Name)) (pe : Entry) (n : Name)
    (hn : n ≠ stringTy) :
    (((structOf o H names' pe).plain.fields.filter fun f => f.base = n)).length =
      (kidEntries pe).countP fun en => structNameOf H names' en.path en.trace en.elem = n := by
  -- attribute fields, the text field and the fields of text-only children are typed `String`
  have hstr : ∀ f : Field, f.base = stringTy → ¬ (decide (f.plain.base = n) = true) := fun f hf => by
    rw [decide_eq_true_eq]; exact fun h => hn (h.symm.trans hf)
  -- the count is the sum over the attribute fields, the text field and the child fields (in the stored order, the count
  -- being invariant under the sort); the first two sums are 0, which `rw` leaves as the last two goals
  simp only [StructDef.plain, structOf, List.map_append, List.map_map, List.filter_append, List.length_append,
    ← List.countP_eq_length_filter, List.countP_map, kidEntries, List.countP_filter]
  rw [(perm_sortedChildren o pe.elem).countP_eq, List.countP_eq_zero.mpr, List.countP_eq_zero.mpr, Nat.zero_add]
  · -- child fields: a struct-bearing child counts iff its entry is named `n`, a text-only child never
    refine List.countP_congr fun c _ => ?_
    cases ht : c.2.textOnly
    · simp only [Function.comp, Field.plain, childField_base_struct _ _ _ _ _ c ht, childEntry, Bool.not_false, Bool.and_true,
        decide_eq_true_eq]
      exact decide_eq_true_iff.symm
    · simpa [ht] using hstr _ (childField_base_string _ _ _ _ _ c ht)
  · -- the text field, if there is one
    intro f hf; split at hf
    · rw [List.mem_singleton.mp hf]; exact hstr _ rfl
    · cases hf
  · -- the attribute fields
    intro a _; exact hstr _ rfl

theorem used_once (H : Name → Option Nat) (o : Options) (t : Elem) (ht : t.Inv = true) :
    ∀ s ∈ ((renderWith H o t).map StructDef.plain).tail, usesOf ((renderWith H o t).map StructDef.plain) s.name = 1 := by
  intro s hs
  let names' := structNames H t
  let E := walk o.sort [] [] t
  let N : Entry → Name := fun en => structNameOf H names' en.path en.trace en.elem
  have hspec := struct_names_spec H o t ht
  have hprog : (renderWith H o t).map StructDef.plain = E.map fun en => (structOf o H names' en).plain := by
    simp [renderWith, List.map_map, Function.comp_def, E, names']
  have hnames : (E.map N).Nodup := by
    simpa [renderWith, List.map_map, Function.comp_def, structOf] using hspec.1
  rw [hprog, ← List.map_tail, List.mem_map] at hs
  obtain ⟨en, hen, rfl⟩ := hs
  have hne : N en ≠ stringTy := fun e' =>
    hspec.2 (structOf o H names' en) (List.mem_map_of_mem (List.mem_of_mem_tail hen))
      (by rw [show (structOf o H names' en).name = N en from rfl, e']; decide)
  -- the uses are counted struct by struct, over the child entries of all entries, which are the non-root entries
  have hcount : usesOf ((renderWith H o t).map StructDef.plain) (N en) = E.tail.countP fun en' => N en' = N en := by
    rw [hprog, usesOf, List.flatMap_map, List.length_flatMap, (walk_tail_kidEntries o.sort t [] []).countP_eq, List.countP_flatMap]
    exact congrArg List.sum (List.map_congr_left fun pe _ => uses_in_struct o H names' pe (N en) hne)
  show usesOf _ (N en) = 1
  -- struct names are pairwise distinct on the entries, so the name of `en` occurs once among the non-root ones
  have h1 := (hnames.sublist ((List.tail_sublist E).map N)).count (a := N en)
  rw [if_pos (List.mem_map_of_mem hen), List.count_eq_countP, List.countP_map] at h1
  rw [hcount]
  exact (List.countP_congr fun x _ => by simp).trans h1

end Xsg
