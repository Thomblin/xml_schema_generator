import XsgModel.Model.Convert
/-! character classes and case mapping of the model: `to_lowercase` / `to_uppercase` shift the upper-case
(lower-case) ranges onto lower-case (upper-case) ranges and leave every other character alone -/
namespace Xsg

theorem toNat_ofNat (n : Nat) (h : n < 0xD800) : (Char.ofNat n).toNat = n := by
  have hv : n.isValidChar := Or.inl h
  simp [Char.ofNat, hv, Char.toNat, Char.ofNatAux]

/-- ASCII lower-case letters: every keyword but `Self` starts with one (`keyword_heads`), and `to_uppercase` never yields
one, which is why no PascalCase name is a keyword -/
def asciiLower (c : Char) : Bool := 97 ≤ c.toNat && c.toNat ≤ 122

theorem isUpper_iff (c : Char) : isUpper c = true ↔
    (65 ≤ c.toNat ∧ c.toNat ≤ 90) ∨ (0xC0 ≤ c.toNat ∧ c.toNat ≤ 0xDE ∧ c.toNat ≠ 0xD7) ∨
      (0x400 ≤ c.toNat ∧ c.toNat ≤ 0x42F) := by
  simp [isUpper, and_assoc, or_assoc]
theorem isLower_iff (c : Char) : isLower c = true ↔
    (97 ≤ c.toNat ∧ c.toNat ≤ 122) ∨ (0xDF ≤ c.toNat ∧ c.toNat ≤ 0xFE ∧ c.toNat ≠ 0xF7) ∨
      (0x430 ≤ c.toNat ∧ c.toNat ≤ 0x45F) := by
  simp [isLower, and_assoc, or_assoc]
theorem isDigit_iff (c : Char) : isDigit c = true ↔ 48 ≤ c.toNat ∧ c.toNat ≤ 57 := by simp [isDigit]
theorem asciiLower_iff (c : Char) : asciiLower c = true ↔ 97 ≤ c.toNat ∧ c.toNat ≤ 122 := by simp [asciiLower]

theorem isUpper_alnum {c : Char} (h : isUpper c = true) : isAlnum c = true := by simp [isAlnum, h]
theorem isLower_alnum {c : Char} (h : isLower c = true) : isAlnum c = true := by simp [isAlnum, h]
theorem isLetter_iff (c : Char) : isLetter c = true ↔ isAlnum c = true ∧ isDigit c = false := by simp [isLetter]

theorem isLower_letter {c : Char} (h : isLower c = true) : isLetter c = true := by
  rw [isLetter_iff, ← Bool.not_eq_true, isDigit_iff]
  exact ⟨isLower_alnum h, by rw [isLower_iff] at h; omega⟩
theorem isUpper_letter {c : Char} (h : isUpper c = true) : isLetter c = true := by
  rw [isLetter_iff, ← Bool.not_eq_true, isDigit_iff]
  exact ⟨isUpper_alnum h, by rw [isUpper_iff] at h; omega⟩

theorem isUpper_not_asciiLower {c : Char} (h : isUpper c = true) : asciiLower c = false := by
  rw [← Bool.not_eq_true, asciiLower_iff]; rw [isUpper_iff] at h; omega

theorem isLower_ofNat {m : Nat}
    (h : (97 ≤ m ∧ m ≤ 122) ∨ (0xDF ≤ m ∧ m ≤ 0xFE ∧ m ≠ 0xF7) ∨ (0x430 ≤ m ∧ m ≤ 0x45F)) :
    isLower (Char.ofNat m) = true := by
  rw [isLower_iff, toNat_ofNat m (by omega)]; exact h
theorem isUpper_ofNat {m : Nat}
    (h : (65 ≤ m ∧ m ≤ 90) ∨ (0xC0 ≤ m ∧ m ≤ 0xDE ∧ m ≠ 0xD7) ∨ (0x400 ≤ m ∧ m ≤ 0x42F)) :
    isUpper (Char.ofNat m) = true := by
  rw [isUpper_iff, toNat_ofNat m (by omega)]; exact h

/-- case analysis on an `if` by a term: a branch that ignores its hypothesis keeps it out of the context, so the
arithmetic side goals below see only the condition of their own branch (`split` would add the negation of every
earlier condition, and `omega` splits on each) -/
theorem ite_elim {α : Type} {P : α → Prop} {p : Prop} [Decidable p] {a b : α} (ha : p → P a) (hb : ¬p → P b) :
    P (if p then a else b) := by
  split
  · exact ha ‹_›
  · exact hb ‹_›

theorem toLower_cases (c : Char) : toLower c = [c] ∨ ∃ d, toLower c = [d] ∧ isLower d = true := by
  let P (l : List Char) : Prop := l = [c] ∨ ∃ d, l = [d] ∧ isLower d = true
  have shift {m} (h : _) : P [Char.ofNat m] := .inr ⟨_, rfl, isLower_ofNat h⟩
  simp only [toLower, Bool.and_eq_true, decide_eq_true_eq, bne_iff_ne, ne_eq]
  refine ite_elim (P := P) (fun h => shift (.inl ?_)) fun _ =>
    ite_elim (P := P) (fun h => shift (.inr (.inl ?_))) fun _ =>
    ite_elim (P := P) (fun h => shift (.inr (.inr ?_))) fun _ =>
    ite_elim (P := P) (fun h => shift (.inr (.inr ?_))) fun _ => .inl rfl
  all_goals omega

theorem toUpper_cases (c : Char) :
    (toUpper c = [c] ∧ asciiLower c = false) ∨ (toUpper c ≠ [] ∧ ∀ d ∈ toUpper c, isUpper d = true) := by
  let P (l : List Char) : Prop := (l = [c] ∧ asciiLower c = false) ∨ (l ≠ [] ∧ ∀ d ∈ l, isUpper d = true)
  have shift {m} (h : _) : P [Char.ofNat m] := .inr ⟨List.cons_ne_nil _ _, List.forall_mem_singleton.mpr (isUpper_ofNat h)⟩
  simp only [toUpper, Bool.and_eq_true, decide_eq_true_eq, bne_iff_ne, ne_eq]
  refine ite_elim (P := P) (fun h => shift (.inl ?_)) fun h1 =>
    ite_elim (P := P) (fun _ => .inr ⟨List.cons_ne_nil _ _, by decide⟩) fun _ =>
    ite_elim (P := P) (fun h => shift (.inr (.inl ?_))) fun _ =>
    ite_elim (P := P) (fun h => shift (.inr (.inr ?_))) fun _ =>
    ite_elim (P := P) (fun h => shift (.inr (.inr ?_))) fun _ =>
      .inl ⟨rfl, by rw [← Bool.not_eq_true, asciiLower_iff]; exact h1⟩
  all_goals omega

theorem toUpper_ne_nil (c : Char) : toUpper c ≠ [] := by
  rcases toUpper_cases c with ⟨h, _⟩ | ⟨h, _⟩
  · rw [h]; exact List.cons_ne_nil _ _
  · exact h

theorem toLower_spec {c : Char} (h : isAlnum c = true) :
    ∃ d, toLower c = [d] ∧ isAlnum d = true ∧ (isDigit c = false → isDigit d = false) := by
  rcases toLower_cases c with hc | ⟨d, hd, hl⟩
  · exact ⟨c, hc, h, id⟩
  · exact ⟨d, hd, isLower_alnum hl, fun _ => ((isLetter_iff d).mp (isLower_letter hl)).2⟩

theorem toUpper_spec {c : Char} (h : isAlnum c = true) :
    ∀ d ∈ toUpper c, isAlnum d = true ∧ (isDigit c = false → isDigit d = false ∧ asciiLower d = false) := by
  intro d hd
  rcases toUpper_cases c with ⟨hc, hal⟩ | ⟨_, hu⟩
  · rw [hc, List.mem_singleton] at hd
    subst hd; exact ⟨h, fun hdig => ⟨hdig, hal⟩⟩
  · exact ⟨isUpper_alnum (hu d hd), fun _ =>
      ⟨((isLetter_iff d).mp (isUpper_letter (hu d hd))).2, isUpper_not_asciiLower (hu d hd)⟩⟩

end Xsg
