import XsgModel.Proofs.Matches
/-! the `position` field against the order of first appearance (`PosInv`), then `Matches` with its clauses grouped
(`AttrsMatch`, `KidMatches`, `matches_iff`) -/
namespace Xsg

/-- the stored children realise the order `ord`: same names, and the child named `ord[i]` has position `i` -/
structure PosInv (cs : List (Nec × Elem)) (ord : List Name) : Prop where
  nodup : ord.Nodup
  len : cs.length = ord.length
  mem : ∀ k, k ∈ ord ↔ getChild cs k ≠ none
  pos : ∀ i k, ord[i]? = some k → ∃ nec c, getChild cs k = some (nec, c) ∧ c.position = some i

theorem PosInv.nil : PosInv [] [] := ⟨List.nodup_nil, rfl, by simp [getChild], by simp⟩

/-- demotion changes tags only: the order invariant survives `tag_optional_children` -/
theorem PosInv_tagOpt (S : Snapshot) (C : Elem) (ord : List Name) (hnd : (childNames C.children).Nodup)
    (h : PosInv C.children ord) : PosInv (tagOpt S C).children ord := by
  refine ⟨h.nodup, ?_, ?_, ?_⟩
  · rw [tagOpt_children, length_fold_setChildOptional _ hnd]; exact h.len
  · intro k
    rw [h.mem k, getChild_tagOpt S C k hnd]
    split
    · exact (demote_ne_none _).symm
    · exact Iff.rfl
  · intro i k hik
    obtain ⟨nec, c, hc, hp⟩ := h.pos i k hik
    rw [getChild_tagOpt S C k hnd, hc]
    split
    · exact ⟨.opt, c, rfl, hp⟩
    · exact ⟨nec, c, rfl, hp⟩

/-- taking the child named `k` out and storing a child of that name again, with the position it had or else the
next free one, realises the order `mark ord k`. `hlen` and `hpos` speak of `eraseChild cs k` because that is the child list
`closeTag` finds, `openTag` having taken the child out (`closeTag_openTag` supplies them) -/
theorem PosInv.reinsert {cs cs' : List (Nec × Elem)} {ord : List Name} {k : Name} {nec : Nec} {F : Elem}
    (h : PosInv cs ord)
    (hothers : ∀ m, m ≠ k → getChild cs' m = getChild cs m)
    (hentry : getChild cs' k = some (nec, F))
    (hlen : cs'.length = (eraseChild cs k).length + 1)
    (hpos : F.position = ((getChild cs k).bind (·.2.position)).or (some (eraseChild cs k).length)) :
    PosInv cs' (mark ord k) := by
  have hmem : ∀ d, d ∈ mark ord k ↔ getChild cs' d ≠ none := fun d => by
    rw [mem_mark]
    by_cases hd : d = k
    · subst hd; simp [hentry]
    · rw [hothers d hd, ← h.mem d]; simp [hd]
  by_cases hk : k ∈ ord
  · -- a child seen before keeps its position
    obtain ⟨C, hC⟩ := Option.ne_none_iff_exists'.mp ((h.mem k).mp hk)
    refine ⟨by rw [mark_of_mem hk]; exact h.nodup, by rw [mark_of_mem hk, hlen, length_eraseChild hC]; exact h.len, hmem, ?_⟩
    rw [mark_of_mem hk]
    intro i d hi
    by_cases hd : d = k
    · subst hd
      obtain ⟨nec', c', hc', hp'⟩ := h.pos i d hi
      exact ⟨_, _, hentry, by rw [hpos, hc']; simp [hp']⟩
    · rw [hothers d hd]; exact h.pos i d hi
  · -- a new child gets the next free position
    have hC : getChild cs k = none := Decidable.byContradiction fun hne => hk ((h.mem k).mpr hne)
    rw [hC, eraseChild_of_absent hC] at hpos
    rw [eraseChild_of_absent hC] at hlen
    refine ⟨nodup_mark h.nodup k, by rw [mark_of_not_mem hk, hlen, h.len]; simp, hmem, ?_⟩
    rw [mark_of_not_mem hk]
    intro i d hi
    rcases getElem?_snoc_eq_some hi with hi | ⟨rfl, rfl⟩
    · have hd : d ≠ k := fun e => hk (e ▸ List.mem_of_getElem? hi)
      rw [hothers d hd]; exact h.pos i d hi
    · exact ⟨_, _, hentry, by rw [hpos, h.len]; rfl⟩

theorem Matches.posInv {e : Elem} {occs : List Node} (h : Matches e occs) : PosInv e.children (orderOf occs) :=
  ⟨nodup_orderOf occs, h.length_eq, fun k => by rw [mem_orderOf, ← h.mem_childNames, mem_childNames_iff], h.position⟩

/-- what `Matches` says about the attribute list -/
def AttrsMatch (as : List (Nec × Name)) (occs : List Node) : Prop :=
  names as = dedupNames (occs.flatMap Node.attrs) ∧ ∀ a, (Nec.man, a) ∈ as ↔ ∀ o ∈ occs, a ∈ o.attrs

/-- what `Matches` says about the child name `k`, given the stored entry of `k` -/
def KidMatches (occs : List Node) (k : Name) : Option (Nec × Elem) → Prop
  | none => ∀ o ∈ occs, o.named k = []
  | some (nec, c) =>
    (nec = .man ↔ ∀ o ∈ occs, o.named k ≠ []) ∧ (c.standalone = false ↔ ∃ o ∈ occs, 2 ≤ (o.named k).length) ∧
      Matches c (occs.flatMap (Node.named k))

theorem matches_iff {e : Elem} {occs : List Node} : Matches e occs ↔
    e.text = occs.any Node.hasText ∧ AttrsMatch e.attrs occs ∧ (childNames e.children).Nodup ∧
    PosInv e.children (orderOf occs) ∧ ∀ k, KidMatches occs k (getChild e.children k) := by
  constructor
  · intro h
    refine ⟨h.text, ⟨h.attrs, h.attr_man⟩, h.nodup, h.posInv, fun k => ?_⟩
    cases hk : getChild e.children k with
    | none => exact (h.absent_iff k).mp hk
    | some c => exact ⟨h.man_iff k _ _ hk, h.multi_iff k _ _ hk, h.child k _ _ hk⟩
  · rintro ⟨ht, ⟨ha1, ha2⟩, hnd, hp, hk⟩
    have hsome : ∀ {k nec c}, getChild e.children k = some (nec, c) → KidMatches occs k (some (nec, c)) :=
      fun hc => hc ▸ hk _
    refine Matches.intro _ _ ht ha1 ha2 hnd (fun k => ⟨fun hc => by have := hk k; rwa [hc] at this, fun hn => ?_⟩)
      (fun k nec c hc => (hsome hc).1)
      (fun k nec c hc => (hsome hc).2.1) hp.len hp.pos (fun k nec c hc => (hsome hc).2.2)
    cases hc : getChild e.children k with
    | none => rfl
    | some c => exact absurd (List.flatMap_eq_nil_iff.mpr hn) (hsome hc).2.2.ne_nil

end Xsg
