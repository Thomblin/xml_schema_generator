import XsgModel.Model.Checks
import XsgModel.Proofs.FirstFree
import XsgModel.Proofs.Lookup
import XsgModel.Proofs.Sort
/-! `identifier::Map::new`: the identifiers handed out for one struct are pairwise distinct (`identMap_spec`); then the
facts about the fields of a rendered struct (`structOf`, `attrField`, `childField`). The last of them, `field_idents_spec`,
is the one to use: the field identifiers are pairwise distinct and have what the identifiers handed out have -/
namespace Xsg

theorem createUnused_not_mem (reserved : List Name) (name : Name) (ty : IType) : createUnused reserved name ty ∉ reserved := by
  unfold createUnused  -- first: unifying the candidate function through the `let` of `createUnused` is slow
  exact firstFree_not_mem _ _ _ (append_dec_injective (identBase reserved name ty ++ ['_']))

/-- one loop of `Map::new`: the created identifiers are fresh, pairwise distinct, and have every property `Q` that all
results of `create_unused_name` for the converted keys have -/
theorem identLoop_spec (Q : Name → Prop) (pre : Name) (ty : IType) (reals reserved : List Name) (acc : List (Name × Name))
    (hQ : ∀ r, ∀ real ∈ reals, Q (createUnused r (validKey pre real) ty)) :
    ∃ created : List Name, created.length = reals.length ∧
      identLoop pre ty reals reserved acc = (reserved ++ created, acc ++ reals.zip created) ∧
      created.Nodup ∧ (∀ n ∈ created, n ∉ reserved) ∧ ∀ n ∈ created, Q n := by
  induction reals generalizing reserved acc with
  | nil => exact ⟨[], rfl, by simp [identLoop], List.nodup_nil, by simp, by simp⟩
  | cons r rs ih =>
    obtain ⟨created, hlen, heq, hnd, hfresh, hq⟩ := ih (reserved ++ [createUnused reserved (validKey pre r) ty])
      (acc ++ [(r, createUnused reserved (validKey pre r) ty)]) (fun r' x hx => hQ r' x (List.mem_cons_of_mem _ hx))
    refine ⟨createUnused reserved (validKey pre r) ty :: created, by simp [hlen], ?_, ?_, ?_, ?_⟩
    · simp only [identLoop, heq, List.append_assoc, List.singleton_append, List.zip_cons_cons]
    · exact List.nodup_cons.mpr ⟨fun hm => hfresh _ hm (by simp), hnd⟩
    · rintro n (_ | ⟨_, hn⟩)
      · exact createUnused_not_mem _ _ _
      · exact fun hr => hfresh n hn (by simp [hr])
    · rintro n (_ | ⟨_, hn⟩)
      · exact hQ _ _ List.mem_cons_self
      · exact hq n hn

/-- the identifiers of one struct: children first, then attributes, then text: pairwise distinct, and each has every
property that all results of `create_unused_name` for the converted keys have -/
theorem identMap_spec (Q : Name → Prop) (e : Elem)
    (hc : ∀ r, ∀ c ∈ e.children, Q (createUnused r (validKey e.name c.2.name) .child))
    (ha : ∀ r, ∀ a ∈ e.attrs, Q (createUnused r (validKey e.name a.2) .attr))
    (ht : ∀ r, Q (createUnused r (cl!"text") .text)) :
    ∃ cc ca : List Name, cc.length = e.children.length ∧ ca.length = e.attrs.length ∧
      (identMap e).child = (e.children.map (·.2.name)).zip cc ∧
      (identMap e).attr = (e.attrs.map (·.2)).zip ca ∧
      (cc ++ ca ++ [(identMap e).text]).Nodup ∧ ∀ n ∈ cc ++ ca ++ [(identMap e).text], Q n := by
  obtain ⟨cc, hlc, heqc, hndc, -, hqc⟩ := identLoop_spec Q e.name .child (e.children.map (·.2.name)) [] []
    (fun r x hx => by obtain ⟨c, hc', rfl⟩ := List.mem_map.mp hx; exact hc r c hc')
  obtain ⟨ca, hla, heqa, hnda, hfa, hqa⟩ := identLoop_spec Q e.name .attr (e.attrs.map (·.2)) ([] ++ cc) []
    (fun r x hx => by obtain ⟨a, ha', rfl⟩ := List.mem_map.mp hx; exact ha r a ha')
  simp only [List.nil_append] at heqa heqc
  have htext : (identMap e).text = createUnused (cc ++ ca) (cl!"text") .text := by simp [identMap, heqc, heqa]
  refine ⟨cc, ca, by simpa using hlc, by simpa using hla, by simp [identMap, heqc], by simp [identMap, heqc, heqa], ?_, ?_⟩
  · rw [htext, List.nodup_append]
    refine ⟨List.nodup_append.mpr ⟨hndc, hnda, fun a ha b hb e' => hfa b hb (by simpa [e'] using ha)⟩, by simp, ?_⟩
    intro a ha b hb e'
    rw [List.mem_singleton.mp hb] at e'
    exact createUnused_not_mem _ _ _ (e' ▸ ha)
  · intro n hn
    rcases List.mem_append.mp hn with hn | hn
    · exact (List.mem_append.mp hn).elim (hqc n) (hqa n)
    · rw [List.mem_singleton.mp hn, htext]; exact ht _

theorem identLookup_eq (m : List (Name × Name)) (k : Name) : identLookup m k = lookupLast m k := rfl

theorem identLookup_zip (reals created : List Name) (hlen : created.length = reals.length) (hnd : reals.Nodup)
    (i : Nat) (hi : i < reals.length) :
    identLookup (reals.zip created) reals[i] = some (created[i]'(by omega)) := by
  rw [identLookup_eq]
  refine lookupLast_of_mem (by rwa [List.map_fst_zip (by omega)]) ?_
  rw [← List.getElem_zip (h := by simp [hlen, hi])]
  exact List.getElem_mem _

theorem getElem_of_mem_nodup {l : List Name} {a : Name} (h : a ∈ l) : ∃ i, ∃ hi : i < l.length, l[i] = a :=
  List.getElem_of_mem h

theorem map_identLookup_zip (reals created : List Name) (hlen : created.length = reals.length) (hnd : reals.Nodup) :
    reals.map (fun r => (identLookup (reals.zip created) r).getD r) = created := by
  apply List.ext_getElem
  · simp [hlen]
  · intro i h1 h2
    simp only [List.getElem_map]
    rw [identLookup_zip reals created hlen hnd i (by simpa using h1)]
    rfl

/-! ### the fields of a rendered struct -/

theorem structOf_fields' (o : Options) (hints : Name → Option Nat) (names' : List (List Name × Name)) (en : Entry) :
    (structOf o hints names' en).fields =
      (sortedAttrs o en.elem).map (attrField o (identMap en.elem))
      ++ (if en.elem.text then [textField o (identMap en.elem)] else [])
      ++ (sortedChildren o en.elem).map (childField hints names' (identMap en.elem) en.path en.trace) := rfl

theorem childField_base_string (H names' im path trace) (c : Nec × Elem) (h : c.2.textOnly = true) :
    (childField H names' im path trace c).base = stringTy := by simp [childField, h]

theorem childField_base_struct (H names' im path trace) (c : Nec × Elem) (h : c.2.textOnly = false) :
    (childField H names' im path trace c).base = structNameOf H names' (path ++ [c.2.name]) (trace ++ [pascal c.2.name]) c.2 := by
  simp [childField, h]

theorem attrField_rename_eq (o : Options) (im : IdentMap) (a : Nec × Name) (r : Name)
    (h : (attrField o im a).rename = some r) :
    r = o.attrPrefix ++ attrLocal a.2 :=
  (Option.ite_some_none_eq_some.mp h).2.symm

theorem childField_rename_eq (H : Name → Option Nat) (names' : List (List Name × Name)) (im : IdentMap)
    (path trace : List Name) (c : Nec × Elem) (r : Name)
    (h : (childField H names' im path trace c).rename = some r) : r = removeNamespace c.2.name :=
  (Option.ite_some_none_eq_some.mp h).2.symm

theorem getD_rename (x y : Name) : (if x ≠ y then some y else none).getD x = y := by
  by_cases h : x = y <;> simp [h]

/-- the serde name of a field: the rename if there is one, else the identifier -/
theorem attrField_bound (o : Options) (im : IdentMap) (a : Nec × Name) :
    (attrField o im a).rename.getD (attrField o im a).ident = o.attrPrefix ++ attrLocal a.2 := getD_rename _ _

theorem childField_bound (H names' im path trace) (c : Nec × Elem) :
    (childField H names' im path trace c).rename.getD (childField H names' im path trace c).ident = removeNamespace c.2.name :=
  getD_rename _ _

theorem mem_structOf_fields {o : Options} {H : Name → Option Nat} {names' : List (List Name × Name)} {en : Entry} {f : Field} :
    f ∈ (structOf o H names' en).fields ↔
      (∃ a ∈ en.elem.attrs, f = attrField o (identMap en.elem) a) ∨
      (en.elem.text = true ∧ f = textField o (identMap en.elem)) ∨
      ∃ c ∈ en.elem.children, f = childField H names' (identMap en.elem) en.path en.trace c := by
  simp only [structOf, List.mem_append, List.mem_map, (perm_sortedAttrs o en.elem).mem_iff,
    (perm_sortedChildren o en.elem).mem_iff, or_assoc]
  refine or_congr (exists_congr fun a => and_congr_right fun _ => eq_comm)
    (or_congr ?_ (exists_congr fun c => and_congr_right fun _ => eq_comm))
  cases en.elem.text <;> simp

/-- the field identifiers of a rendered struct are, up to order, the identifiers `Map::new` created: attributes,
the text identifier if there is text, children -/
theorem field_idents_perm (o : Options) (H : Name → Option Nat) (names' : List (List Name × Name)) (en : Entry)
    (ha : (en.elem.attrs.map (·.2)).Nodup) (hc : (en.elem.children.map (·.2.name)).Nodup)
    {cc ca : List Name} (hlc : cc.length = en.elem.children.length) (hla : ca.length = en.elem.attrs.length)
    (hch : (identMap en.elem).child = (en.elem.children.map (·.2.name)).zip cc)
    (hat : (identMap en.elem).attr = (en.elem.attrs.map (·.2)).zip ca) :
    ((structOf o H names' en).fields.map (·.ident)).Perm
      (ca ++ (if en.elem.text then [(identMap en.elem).text] else []) ++ cc) := by
  have hA : en.elem.attrs.map (fun a => (attrField o (identMap en.elem) a).ident) = ca := by
    rw [← map_identLookup_zip (en.elem.attrs.map (·.2)) ca (by simpa using hla) ha, List.map_map]
    exact List.map_congr_left fun a _ => by simp [attrField, hat]
  have hC : en.elem.children.map (fun c => (childField H names' (identMap en.elem) en.path en.trace c).ident) = cc := by
    rw [← map_identLookup_zip (en.elem.children.map (·.2.name)) cc (by simpa using hlc) hc, List.map_map]
    exact List.map_congr_left fun c _ => by simp [childField, hch]
  simp only [structOf, List.map_append, List.map_map, Function.comp_def]
  refine ((hA ▸ (perm_sortedAttrs o en.elem).map _).append ?_).append (hC ▸ (perm_sortedChildren o en.elem).map _)
  split <;> exact .refl _

/-- what the users need of `identMap_spec` and `field_idents_perm`: the field identifiers of a rendered struct are
pairwise distinct, and each has every property that all results of `create_unused_name` for the converted keys have -/
theorem field_idents_spec (Q : Name → Prop) (o : Options) (H : Name → Option Nat) (names' : List (List Name × Name)) (en : Entry)
    (ha : (en.elem.attrs.map (·.2)).Nodup) (hc : (en.elem.children.map (·.2.name)).Nodup)
    (hQc : ∀ r, ∀ c ∈ en.elem.children, Q (createUnused r (validKey en.elem.name c.2.name) .child))
    (hQa : ∀ r, ∀ a ∈ en.elem.attrs, Q (createUnused r (validKey en.elem.name a.2) .attr))
    (hQt : ∀ r, Q (createUnused r (cl!"text") .text)) :
    ((structOf o H names' en).fields.map (·.ident)).Nodup ∧ ∀ f ∈ (structOf o H names' en).fields, Q f.ident := by
  obtain ⟨cc, ca, hlc, hla, hch, hat, hnd, hq⟩ := identMap_spec Q en.elem hQc hQa hQt
  have hperm := field_idents_perm o H names' en ha hc hlc hla hch hat
  -- the identifiers handed out are `cc ++ ca ++ [text]`; the fields have `ca ++ [text] ++ cc`, without `text` if there is no text
  have hall : (ca ++ [(identMap en.elem).text] ++ cc).Perm (cc ++ ca ++ [(identMap en.elem).text]) :=
    List.append_assoc cc .. ▸ List.perm_append_comm
  have hsub : (ca ++ (if en.elem.text then [(identMap en.elem).text] else []) ++ cc).Sublist
      (ca ++ [(identMap en.elem).text] ++ cc) := by
    split
    · exact .refl _
    · exact ((List.Sublist.refl ca).append (List.nil_sublist _)).append (.refl cc)
  exact ⟨hperm.nodup_iff.mpr (hsub.nodup (hall.nodup_iff.mpr hnd)),
    fun f hf => hq _ (hall.subset (hsub.subset (hperm.subset (List.mem_map_of_mem hf))))⟩

end Xsg
