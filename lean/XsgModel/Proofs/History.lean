import XsgModel.Proofs.Fragment
/-! documents and histories of documents: a document is an input with one top-level element -/
namespace Xsg

/-- a document as the parser needs it: only misc around a well-formed root -/
def Doc.ok (d : Doc) : Bool := d.pre.noElems && d.root.ok && d.post.noElems

theorem Doc.events_eq (d : Doc) : d.events = fragEvents d.items := by
  simp [Doc.events, fragEvents, Doc.items, Items.events_append, Items.events]

theorem Doc.elems_items (d : Doc) (h : d.ok = true) : d.items.elems = [d.root] := by
  simp only [Doc.ok, Bool.and_eq_true, Items.noElems_eq, List.isEmpty_iff] at h
  simp [Doc.items, Items.elems_append, Items.elems, h.1.1, h.2]

theorem Doc.items_ok (d : Doc) (h : d.ok = true) : d.items.ok = true := by
  rw [Items.ok_eq, d.elems_items h]
  simp only [Doc.ok, Bool.and_eq_true] at h
  simp [h.1.2]

theorem Doc.items_named (d : Doc) (h : d.ok = true) (k : Name) :
    d.items.named k = if d.root.name = k then [d.root] else [] := by
  rw [Items.named_eq, d.elems_items h, List.filter_cons, List.filter_nil]
  by_cases hk : d.root.name = k
  · rw [if_pos hk, if_pos (decide_eq_true hk)]
  · rw [if_neg hk, if_neg (by rw [decide_eq_true_eq]; exact hk)]

theorem Doc.items_rootsNamed (d : Doc) (h : d.ok = true) : d.items.rootsNamed d.root.name :=
  ⟨by simp [d.items_named h], fun k hk => by rw [d.items_named h, if_neg (Ne.symm hk)]⟩

/-- a history: documents with a common root name -/
def historyOk (H : List Doc) : Prop :=
  H ≠ [] ∧ (∀ d ∈ H, d.ok = true) ∧ ∀ d ∈ H, ∀ d' ∈ H, d.root.name = d'.root.name

theorem historyOk.ne_nil {H : List Doc} (h : historyOk H) : H ≠ [] := h.1
theorem historyOk.ok {H : List Doc} (h : historyOk H) : ∀ d ∈ H, d.ok = true := h.2.1
theorem historyOk.same_root {H : List Doc} (h : historyOk H) : ∀ d ∈ H, ∀ d' ∈ H, d.root.name = d'.root.name := h.2.2

theorem historyOk.of_subset {H H' : List Doc} (h : historyOk H) (hne : H' ≠ []) (hsub : ∀ d ∈ H', d ∈ H) : historyOk H' :=
  ⟨hne, fun d hd => h.ok d (hsub d hd), fun d hd d' hd' => h.same_root d (hsub d hd) d' (hsub d' hd')⟩

theorem map_doc_events (H : List Doc) : H.map Doc.events = (H.map Doc.items).map fragEvents := by
  simp [Doc.events_eq]

theorem flatMap_doc_items {H : List Doc} {k : Name} (h : ∀ d ∈ H, d.ok = true ∧ d.root.name = k) :
    (H.map Doc.items).flatMap (·.named k) = H.map (·.root) := by
  induction H with
  | nil => rfl
  | cons d H ih =>
    simp [Doc.items_named d (h d (by simp)).1, (h d (by simp)).2, ← ih fun d' hd' => h d' (by simp [hd'])]

theorem docs_fragments {H : List Doc} {k : Name} (h : ∀ d ∈ H, d.ok = true ∧ d.root.name = k) :
    ∀ is ∈ H.map Doc.items, is.ok = true ∧ is.rootsNamed k := by
  simp only [List.mem_map, forall_exists_index, and_imp, forall_apply_eq_imp_iff₂]
  exact fun d hd => ⟨d.items_ok (h d hd).1, (h d hd).2 ▸ d.items_rootsNamed (h d hd).1⟩

theorem extend_fold (ds : List Doc) (t : Elem) (occs : List Node) (hocc : occs ≠ []) (hm : Matches t occs)
    (hds : ∀ d ∈ ds, d.ok = true ∧ d.root.name = t.name) :
    ∃ R, (ds.map Doc.events).foldl extendStep (Except.ok t) = Except.ok R ∧ Matches R (occs ++ ds.map (·.root)) ∧ R.name = t.name := by
  rw [map_doc_events, ← flatMap_doc_items hds]
  exact fragments_fold _ t occs hm (docs_fragments hds)

theorem parse_history (H : List Doc) (h : historyOk H) :
    ∃ t, parseHistory (H.map Doc.events) = .ok t ∧ Matches t (H.map (·.root)) ∧ ∀ d ∈ H, t.name = d.root.name := by
  obtain ⟨d₀, hd₀⟩ := List.exists_mem_of_ne_nil H h.ne_nil
  have hk : ∀ d ∈ H, d.ok = true ∧ d.root.name = d₀.root.name := fun d hd => ⟨h.ok d hd, h.same_root d hd d₀ hd₀⟩
  obtain ⟨t, ht, hm, hn⟩ := parse_fragments (H.map Doc.items) d₀.root.name
    ⟨by simpa using h.ne_nil, docs_fragments hk⟩
  rw [← map_doc_events, flatMap_doc_items hk] at *
  exact ⟨t, ht, hm, fun d hd => hn.trans (hk d hd).2.symm⟩

end Xsg
