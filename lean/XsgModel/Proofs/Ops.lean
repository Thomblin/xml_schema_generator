import XsgModel.Model.Ops
import XsgModel.Proofs.Children
/-! the uniqueness invariant under the construction operations (C16) -/
namespace Xsg

theorem invKids_iff (cs : List (Nec × Elem)) : Elem.Inv.invKids cs = true ↔ ∀ c ∈ cs, c.2.Inv = true := by
  induction cs with
  | nil => simp [Elem.Inv.invKids]
  | cons c cs ih =>
    obtain ⟨n, e⟩ := c
    simp [Elem.Inv.invKids, ih]

theorem Inv_iff (e : Elem) : e.Inv = true ↔ (childNames e.children).Nodup ∧ ∀ c ∈ e.children, c.2.Inv = true := by
  cases e with
  | mk n t s c a cs p =>
    simp only [Elem.Inv, Bool.and_eq_true, decide_eq_true_eq, invKids_iff, Elem.children, childNames]

theorem Inv_children {e : Elem} (h : e.Inv = true) {c} (hc : c ∈ e.children) : c.2.Inv = true := ((Inv_iff e).mp h).2 c hc
theorem Inv_nodup {e : Elem} (h : e.Inv = true) : (childNames e.children).Nodup := ((Inv_iff e).mp h).1

theorem Inv_congr {e e' : Elem} (hc : e'.children = e.children) : e'.Inv = e.Inv := by
  cases e; cases e'; simp only [Elem.children] at hc; subst hc; rfl

theorem Inv_setChildren {e : Elem} {cs : List (Nec × Elem)} (hnd : (childNames cs).Nodup) (h : ∀ c ∈ cs, c.2.Inv = true) :
    (e.setChildren cs).Inv = true := by
  rw [Inv_iff, children_setChildren]; exact ⟨hnd, h⟩

theorem Inv_new (n as) : (Elem.new n as).Inv = true := by rw [Inv_iff]; simp [childNames]

/-! ### `modifyFirst`: the one way a stored child is changed in place -/

theorem getChild_modifyFirst (cs : List (Nec × Elem)) (n m : Name) (f : Elem → Elem) (hf : ∀ e, (f e).name = e.name) :
    getChild (modifyFirst cs n f) m = if m = n then (getChild cs n).map (fun d => (d.1, f d.2)) else getChild cs m := by
  induction cs with
  | nil => simp [modifyFirst, getChild]
  | cons d ds ih =>
    rw [modifyFirst]
    by_cases hd : d.2.name = n
    · by_cases e : m = n
      · simp [getChild_cons, hd, e, hf d.2]
      · simp [getChild_cons, hd, e, hf d.2, Ne.symm e]
    · rw [if_neg hd, getChild_cons, ih]
      by_cases e : m = n
      · simp [getChild_cons, hd, e]
      · simp [getChild_cons, e]

theorem childNames_modifyFirst (cs : List (Nec × Elem)) (n : Name) (f : Elem → Elem) (hf : ∀ e, (f e).name = e.name) :
    childNames (modifyFirst cs n f) = childNames cs := by
  induction cs with
  | nil => rfl
  | cons d ds ih =>
    rw [modifyFirst]; split
    · simp [childNames, hf d.2]
    · simp only [childNames, List.map_cons] at ih ⊢; rw [ih]

theorem length_modifyFirst (cs : List (Nec × Elem)) (n : Name) (f : Elem → Elem) : (modifyFirst cs n f).length = cs.length := by
  induction cs with
  | nil => rfl
  | cons d ds ih => rw [modifyFirst]; split <;> simp [ih]

theorem modifyFirst_congr {cs : List (Nec × Elem)} {n : Name} {f g : Elem → Elem} (h : ∀ d, getChild cs n = some d → f d.2 = g d.2) :
    modifyFirst cs n f = modifyFirst cs n g := by
  induction cs with
  | nil => rfl
  | cons d ds ih =>
    rw [modifyFirst, modifyFirst]; split
    · rename_i hd; rw [h d (by rw [getChild_cons, if_pos hd])]
    · rename_i hd; rw [ih fun d' hd' => h d' (by rw [getChild_cons, if_neg hd, hd'])]

theorem modifyFirst_id (cs : List (Nec × Elem)) (n : Name) : modifyFirst cs n id = cs := by
  induction cs with
  | nil => rfl
  | cons d ds ih => rw [modifyFirst, ih]; split <;> rfl

theorem modifyFirst_eq_self {cs : List (Nec × Elem)} {n : Name} {f : Elem → Elem} (h : ∀ d, getChild cs n = some d → f d.2 = d.2) :
    modifyFirst cs n f = cs :=
  (modifyFirst_congr h).trans (modifyFirst_id cs n)

theorem mem_modifyFirst {cs : List (Nec × Elem)} {n : Name} {f : Elem → Elem} {c'} (h : c' ∈ modifyFirst cs n f) :
    c' ∈ cs ∨ ∃ c ∈ cs, c' = (c.1, f c.2) := by
  induction cs with
  | nil => cases h
  | cons d ds ih =>
    unfold modifyFirst at h; split at h
    · simp only [List.mem_cons] at h
      rcases h with rfl | h
      · exact Or.inr ⟨d, by simp, rfl⟩
      · exact Or.inl (by simp [h])
    · simp only [List.mem_cons] at h
      rcases h with rfl | h
      · exact Or.inl (by simp)
      · rcases ih h with h | ⟨c, hc, e⟩
        · exact Or.inl (by simp [h])
        · exact Or.inr ⟨c, by simp [hc], e⟩

theorem name_modifyAt (path : List Name) (f : Elem → Elem) (hf : ∀ e, (f e).name = e.name) (e : Elem) :
    (modifyAt path f e).name = e.name := by
  cases path with
  | nil => exact hf e
  | cons p ps => simp [modifyAt]

theorem Inv_modifyFirst {e : Elem} (n : Name) (f : Elem → Elem) (hn : ∀ e, (f e).name = e.name)
    (hf : ∀ e, e.Inv = true → (f e).Inv = true) (h : e.Inv = true) : (e.setChildren (modifyFirst e.children n f)).Inv = true :=
  Inv_setChildren (by rw [childNames_modifyFirst _ _ _ hn]; exact Inv_nodup h) fun _ hd =>
    (mem_modifyFirst hd).elim (Inv_children h) fun ⟨c, hc, e⟩ => e ▸ hf _ (Inv_children h hc)

theorem Inv_modifyAt (path : List Name) (f : Elem → Elem) (hn : ∀ e, (f e).name = e.name)
    (hf : ∀ e, e.Inv = true → (f e).Inv = true) (e : Elem) (h : e.Inv = true) : (modifyAt path f e).Inv = true := by
  induction path generalizing e with
  | nil => exact hf e h
  | cons p ps ih => exact Inv_modifyFirst p _ (name_modifyAt ps f hn) ih h

/-! ### the operations: adding a child, marking one optional, removing one, following a path, moving a child -/

/-- `add_unique_child` of a child that has the invariant (`Element::new`, or a child moved from elsewhere) -/
theorem Inv_addChild (c e : Elem) (hc : c.Inv = true) (h : e.Inv = true) :
    (e.setChildren (addUniqueChild e.children c)).Inv = true :=
  Inv_setChildren (nodup_addUniqueChild (Inv_nodup h)) fun d hd => by
    rcases mem_addUniqueChild hd with hd | rfl
    · exact Inv_children h hd
    · rwa [Inv_congr (children_withPosition _ c)]

theorem Inv_setOptional (name : Name) (e : Elem) (h : e.Inv = true) :
    (e.setChildren (setChildOptional e.children name)).Inv = true :=
  Inv_setChildren (nodup_setChildOptional (Inv_nodup h)) fun d hd => by
    obtain ⟨d', hd', e⟩ := mem_setChildOptional hd
    rw [e]; exact Inv_children h hd'

theorem Inv_remove (name : Name) (e : Elem) (h : e.Inv = true) :
    (e.setChildren (eraseChild e.children name)).Inv = true :=
  Inv_setChildren (nodup_eraseChild (Inv_nodup h)) fun _ hd => Inv_children h (mem_eraseChild hd)

theorem elemAt_inherit {P : Elem → Prop} (hP : ∀ e, P e → ∀ c ∈ e.children, P c.2) :
    ∀ (path : List Name) (t e : Elem), P t → elemAt path t = some e → P e
  | [], t, e, h, he => by simp only [elemAt, Option.some.injEq] at he; rw [← he]; exact h
  | p :: ps, t, e, h, he => by
    simp only [elemAt] at he
    split at he
    · rename_i nec c hg
      exact elemAt_inherit hP ps c e (hP t h (nec, c) (getChild_some_mem hg)) he
    · cases he

theorem Inv_elemAt (path : List Name) (t e : Elem) : t.Inv = true → elemAt path t = some e → e.Inv = true :=
  elemAt_inherit (P := (·.Inv = true)) (fun _ h _ hc => Inv_children h hc) path t e

theorem applyOp_move (t : Elem) (src : List Name) (name : Name) (dst : List Name) :
    (applyOp t (.move src name dst)).1 = t ∨
    ∃ e c, elemAt src t = some e ∧ getChild e.children name = some c ∧
      (applyOp t (.move src name dst)).1 = modifyAt dst (fun e => e.setChildren (addUniqueChild e.children c.2))
        (modifyAt src (fun e => e.setChildren (eraseChild e.children name)) t) := by
  simp only [applyOp]
  cases hs : elemAt src t with
  | none => exact .inl rfl
  | some e =>
    cases hg : getChild e.children name with
    | none => exact .inl (by simp [hg])
    | some c => exact .inr ⟨e, c, rfl, hg, by simp [hg]⟩

/-- every operation keeps the invariant, wherever in the tree it is applied -/
theorem Inv_applyOp (t : Elem) (op : Op) (h : t.Inv = true) : (applyOp t op).1.Inv = true := by
  cases op with
  | add path name attrs => exact Inv_modifyAt path _ (fun e => name_setChildren e _) (fun e => Inv_addChild _ e (Inv_new name attrs)) t h
  | setOptional path name => exact Inv_modifyAt path _ (fun e => name_setChildren e _) (Inv_setOptional name) t h
  | remove path name => exact Inv_modifyAt path _ (fun e => name_setChildren e _) (Inv_remove name) t h
  | mergeAttr path _ | setMultiple path | setText path =>
    -- the children are not touched
    exact Inv_modifyAt path _ (by intro e; simp) (fun e he => (Inv_congr (e := e) (by simp)).trans he) t h
  | get path name => exact h
  | move src name dst =>
    rcases applyOp_move t src name dst with h' | ⟨e, c, he, hg, h'⟩ <;> rw [h']
    · exact h
    · have hcinv : c.2.Inv = true := Inv_children (Inv_elemAt src t e h he) (getChild_some_mem hg)
      exact Inv_modifyAt dst _ (fun e => name_setChildren e _) (fun e he => Inv_addChild c.2 e hcinv he) _
        (Inv_modifyAt src _ (fun e => name_setChildren e _) (Inv_remove name) t h)

end Xsg
