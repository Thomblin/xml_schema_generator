import XsgModel.Model.Checks
import XsgModel.Proofs.Matches
/-!
# The two relations of C01: a tree admits a document element; the executable predicate `admits` means what C01 says

`Admits e o` is the relation of the soundness theorems (`C01_sound`: the parsed tree admits every source document, from
`matches_admits`).  `admits` (Model/Checks.lean) is the Boolean function the check evaluates on the schema read back from the
implementation's rendered text.  `SAdmits` states the same clauses with quantifiers; `admits_iff` proves
that the function decides exactly that relation, for every schema and every document element.
-/
namespace Xsg

inductive Admits : Elem → Node → Prop
  | intro (e : Elem) (o : Node)
      (hattr_field : ∀ a ∈ o.attrs, a ∈ names e.attrs)
      (hattr_req : ∀ a, (Nec.man, a) ∈ e.attrs → a ∈ o.attrs)
      (htext : o.hasText = true → e.text = true)
      (hkid_field : ∀ k, o.named k ≠ [] → getChild e.children k ≠ none)
      (hkid_req : ∀ k c, getChild e.children k = some (Nec.man, c) → o.named k ≠ [])
      (hkid_single : ∀ k nec c, getChild e.children k = some (nec, c) → c.standalone = true → (o.named k).length ≤ 1)
      (hsub : ∀ k nec c, getChild e.children k = some (nec, c) → ∀ n ∈ o.named k, Admits c n)
      : Admits e o

theorem matches_admits {e : Elem} {occs : List Node} (h : Matches e occs) : ∀ o ∈ occs, Admits e o := by
  induction h using Matches.induct with
  | step e occs h ih =>
    intro o ho
    refine Admits.intro _ _ ?_ (fun a ha => (h.attr_man a).mp ha o ho) ?_ (fun k hk hn => hk ((h.absent_iff k).mp hn o ho))
      (fun k c hc => (h.man_iff k _ c hc).mp rfl o ho) ?_
      fun k nec c hc n hn => ih k nec c hc n (List.mem_flatMap.mpr ⟨o, ho, hn⟩)
    · intro a ha
      rw [h.attrs, mem_dedupNames, List.mem_flatMap]; exact ⟨o, ho, ha⟩
    · intro ht; rw [h.text, List.any_eq_true]; exact ⟨o, ho, ht⟩
    · -- a child that some occurrence holds twice is not standalone
      intro k nec c hc hs
      refine Nat.le_of_lt_succ (Nat.lt_of_not_le fun h2 => ?_)
      rw [(h.multi_iff k nec c hc).mpr ⟨o, ho, h2⟩] at hs
      cases hs

/-- the field a child element is bound to: the first one whose bound name is the child's local name -/
def Schema.fieldFor (s : Schema) (n : Node) : Option (Name × Nec × Bool × Schema) :=
  s.kids.find? (fun k => k.1 = removeNamespace n.name)

/-- number of child elements bound to the name `k` -/
def Node.boundCount (o : Node) (k : Name) : Nat :=
  (o.items.elems.filter (fun n => removeNamespace n.name = k)).length

inductive SAdmits : Schema → Node → Prop
  | intro (s : Schema) (o : Node)
      (hattr_field : ∀ a ∈ o.attrs, ∃ f ∈ s.attrs, f.2 = attrLocal a)
      (hattr_req : ∀ f ∈ s.attrs, f.1 = Nec.opt ∨ ∃ a ∈ o.attrs, attrLocal a = f.2)
      (htext : o.hasText = true → s.text = true)
      (hkid_field : ∀ n ∈ o.items.elems, s.fieldFor n ≠ none)
      (hsub : ∀ n ∈ o.items.elems, ∀ k, s.fieldFor n = some k → SAdmits k.2.2.2 n)
      (hreq : ∀ k ∈ s.kids, k.2.1 = Nec.opt ∨ 1 ≤ o.boundCount k.1)
      (hsingle : ∀ k ∈ s.kids, k.2.2.1 = true ∨ o.boundCount k.1 ≤ 1)
      : SAdmits s o

theorem countBound_eq (k : Name) : ∀ is : Items,
    admits.countBound k is = (is.elems.filter (fun n => removeNamespace n.name = k)).length
  | .nil => rfl
  | .elem n r => by
    rw [admits.countBound, Items.elems, List.filter_cons, countBound_eq k r]
    by_cases h : removeNamespace n.name = k <;> simp [h, Nat.add_comm]
  | .text _ r | .other r => countBound_eq k r

theorem admitsItems_eq (kids : List (Name × Nec × Bool × Schema)) : ∀ is : Items,
    admits.admitsItems kids is = is.elems.all fun n =>
      (kids.find? fun k => k.1 = removeNamespace n.name).any fun k => admits k.2.2.2 n
  | .nil => rfl
  | .elem n r => by
    rw [admits.admitsItems, Items.elems, List.all_cons, admitsItems_eq kids r]
    congr 1
    cases kids.find? fun k => k.1 = removeNamespace n.name <;> rfl
  | .text _ r | .other r => admitsItems_eq kids r

/-- `admits` in the vocabulary of `SAdmits`: the five clauses, the children as a list -/
theorem admits_eq (s : Schema) (o : Node) : admits s o =
    (o.attrs.all (fun a => s.attrs.any fun f => f.2 = attrLocal a) &&
     s.attrs.all (fun f => f.1 = .opt || o.attrs.any fun a => attrLocal a = f.2) &&
     (!o.hasText || s.text) &&
     (o.items.elems.all fun n => (s.fieldFor n).any fun k => admits k.2.2.2 n) &&
     s.kids.all fun k => (k.2.1 = .opt || 1 ≤ o.boundCount k.1) && (k.2.2.1 || o.boundCount k.1 ≤ 1)) := by
  cases s; cases o
  rw [admits, admitsItems_eq]
  simp only [countBound_eq]
  rfl

theorem admits_iff (s : Schema) (o : Node) : admits s o = true ↔ SAdmits s o := by
  induction o using Node.induction_elems generalizing s with
  | step o ih =>
    rw [admits_eq]
    simp only [Bool.and_eq_true, Bool.or_eq_true, Bool.not_eq_true', List.all_eq_true, List.any_eq_true, decide_eq_true_eq,
      Option.any_eq_true]
    constructor
    · rintro ⟨⟨⟨⟨hattrF, hattrR⟩, htext⟩, hkids⟩, hcount⟩
      refine .intro s o hattrF hattrR (fun ht => htext.resolve_left (by simp [ht])) ?_ ?_
        (fun k hk => (hcount k hk).1) (fun k hk => (hcount k hk).2)
      · intro n hn hnone
        obtain ⟨k, hk, _⟩ := hkids n hn
        rw [hnone] at hk; cases hk
      · intro n hn k hk
        obtain ⟨k', hk', hs⟩ := hkids n hn
        rw [hk] at hk'; cases hk'
        exact (ih n hn _).mp hs
    · rintro ⟨_, _, hattrF, hattrR, htext, hkidF, hsub, hreq, hsingle⟩
      refine ⟨⟨⟨⟨hattrF, hattrR⟩, ?_⟩, ?_⟩, fun k hk => ⟨hreq k hk, hsingle k hk⟩⟩
      · cases hT : o.hasText
        · exact Or.inl rfl
        · exact Or.inr (htext hT)
      · intro n hn
        cases hf : s.fieldFor n with
        | none => exact absurd hf (hkidF n hn)
        | some k => exact ⟨k, rfl, (ih n hn _).mpr (hsub n hn k hf)⟩

theorem admitsItems_iff : ∀ (kids : List (Name × Nec × Bool × Schema)) (is : Items),
    admits.admitsItems kids is = true ↔
      ∀ n ∈ is.elems, ∃ k, kids.find? (fun k => k.1 = removeNamespace n.name) = some k ∧ SAdmits k.2.2.2 n := by
  simp only [admitsItems_eq, List.all_eq_true, Option.any_eq_true, admits_iff, implies_true]

end Xsg
