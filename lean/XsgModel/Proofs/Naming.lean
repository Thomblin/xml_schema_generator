import XsgModel.Proofs.FirstFree
import XsgModel.Proofs.Lookup
import XsgModel.Proofs.Walk
/-! `expand_name` keeps a suffix of the trace; `fill_struct_names` (`assignNames`) hands out pairwise distinct, unused names,
each the expanded name of its entry, numbered only where the plain name is taken -/
namespace Xsg

theorem expandName_shape (H : Name → Option Nat) (trace : List Name) (e : Elem) :
    ∃ j, expandName H trace e = (trace.drop j).flatten := by
  unfold expandName
  split
  · exact ⟨_, rfl⟩
  · exact ⟨trace.length, by simp⟩

/-- `expand_name` with a positive hint keeps at least the last trace item (the element's own name) -/
theorem expandName_own (H : Name → Option Nat) (trace : List Name) (e : Elem) (n : Nat) (hn : H (pascal e.name) = some n)
    (hpos : 1 ≤ n) (htr : trace ≠ []) : ∃ j, j < trace.length ∧ expandName H trace e = (trace.drop j).flatten := by
  unfold expandName
  rw [hn]
  refine ⟨trace.length - n, ?_, rfl⟩
  have := List.length_pos_iff.mpr htr
  omega

theorem assignNames_paths (H : Name → Option Nat) (entries : List Entry) (used : List Name) :
    (assignNames H entries used).map (·.1) = entries.map (·.path) := by
  induction entries generalizing used with
  | nil => rfl
  | cons en rest ih => simp [assignNames, ih]

theorem assignNames_fresh (H : Name → Option Nat) (entries : List Entry) (used : List Name) :
    ((assignNames H entries used).map (·.2)).Nodup ∧ ∀ n ∈ (assignNames H entries used).map (·.2), n ∉ used := by
  induction entries generalizing used with
  | nil => simp [assignNames]
  | cons en rest ih =>
    simp only [assignNames, List.map_cons, List.nodup_cons, List.mem_cons]
    have hfree := firstFree_not_mem used (expandName H en.trace en.elem) (fun i => expandName H en.trace en.elem ++ dec i)
      (append_dec_injective _)
    obtain ⟨ih1, ih2⟩ := ih (used ++ [firstFree used (expandName H en.trace en.elem) fun i => expandName H en.trace en.elem ++ dec i])
    refine ⟨⟨?_, ih1⟩, ?_⟩
    · intro hm
      exact ih2 _ hm (by simp)
    · rintro n (rfl | hn)
      · exact hfree
      · intro hu; exact ih2 n hn (by simp [hu])

/-- every name handed out is the expanded name of its entry, possibly followed by a decimal number; a numbered name
is handed out only if the plain name was reserved / used before the pass or is handed out to another entry of the pass -/
theorem assignNames_suffix_needed (H : Name → Option Nat) (entries : List Entry) (used : List Name) :
    ∀ p ∈ assignNames H entries used, ∃ en ∈ entries, p.1 = en.path ∧
      (p.2 = expandName H en.trace en.elem ∨
        ((∃ i, 1 ≤ i ∧ p.2 = expandName H en.trace en.elem ++ dec i) ∧
          (expandName H en.trace en.elem ∈ used ∨ expandName H en.trace en.elem ∈ (assignNames H entries used).map (·.2)))) := by
  induction entries generalizing used with
  | nil => intro p hp; cases hp
  | cons en rest ih =>
    intro p hp
    simp only [assignNames, List.mem_cons] at hp
    rcases hp with rfl | hp
    · refine ⟨en, List.mem_cons_self, rfl, ?_⟩
      rcases firstFree_cases used (expandName H en.trace en.elem) (fun i => expandName H en.trace en.elem ++ dec i) with
        h | ⟨hb, hi⟩
      · exact .inl h
      · exact .inr ⟨hi, .inl hb⟩
    · obtain ⟨en', hen', h1, h2⟩ := ih _ p hp
      refine ⟨en', List.mem_cons_of_mem _ hen', h1, h2.imp_right (And.imp_right ?_)⟩
      -- used before this entry, or this entry's name, or the name of a later entry
      simp only [assignNames, List.map_cons, List.mem_cons, List.mem_append, List.not_mem_nil, or_false]
      exact or_assoc.mp

end Xsg
