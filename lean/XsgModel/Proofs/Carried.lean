import XsgModel.Model.Parser
import XsgModel.Proofs.FirstFree
/-!
# What an error carries determines the error

`PErr.carried` is the text the correspondence check compares for the property clause of C08
("the error carries the reader's error and byte position"). It is injective: two errors with the same
`carried` text are the same error value, so comparing the texts is comparing variant, position and inner error.
-/
namespace Xsg

theorem bar_not_in_dec (n : Nat) : '|' ∉ dec n := by
  intro h
  have := List.all_eq_true.mp (dec_all_digits n) '|' h
  simp [isDigit] at this

theorem PErr.carried_injective (e e' : PErr) (h : e.carried = e'.carried) : e = e' := by
  -- the first character is the variant
  have tag : ∀ x : PErr, x.carried.head? =
      some (match x with | .quickXml .. => 'Q' | .utf8 _ => 'U' | .attr _ => 'A' | .noRoot => 'P') := by
    intro x; cases x <;> rfl
  have ht := tag e
  rw [h, tag e'] at ht
  -- so only the four pairs of equal variants remain
  cases e <;> cases e' <;> simp only [Option.some.injEq] at ht <;> try exact absurd ht (by decide)
  · -- position and message are separated by the first `|` after the digits
    simp only [PErr.carried, List.append_assoc, List.cons_append, List.nil_append, List.cons.injEq, true_and] at h
    obtain ⟨hp, hm⟩ := split_at_sep '|' _ _ _ _ (bar_not_in_dec _) (bar_not_in_dec _) h
    rw [dec_injective hp, hm]
  · simp only [PErr.carried, List.cons_append, List.nil_append, List.cons.injEq, true_and] at h; rw [h]
  · simp only [PErr.carried, List.cons_append, List.nil_append, List.cons.injEq, true_and] at h; rw [h]
  · rfl

end Xsg
