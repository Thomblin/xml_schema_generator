import XsgModel.Model.Absorb
/-!
Two things most lemmas about documents go through.

* Order of first appearance.  `dedupNames`, `Items.childNames`, `marks` and `orderOf` are four ways of writing it;
  all are `List.foldl mark`.
* `Items` as the list of its child elements.  Apart from `hasText` and the events, every function on `Items`
  looks at the elements only (`named_eq`, `childNames_eq`, `marks_eq_foldl`, `ok_eq`, `noElems_eq`), so facts about
  them are facts about lists.
-/
namespace Xsg

/-! ### order of first appearance: `dedupNames` and `mark` -/

theorem mem_dedupNames {l : List Name} {a : Name} : a ∈ dedupNames l ↔ a ∈ l := by
  induction l with
  | nil => simp [dedupNames]
  | cons b bs ih =>
    simp only [dedupNames, List.mem_cons, List.mem_filter, decide_eq_true_eq, ih]
    constructor
    · rintro (h | h); exact Or.inl h; exact Or.inr h.1
    · rintro (h | h)
      · exact Or.inl h
      · by_cases e : a = b
        · exact Or.inl e
        · exact Or.inr ⟨h, e⟩

theorem nodup_dedupNames (l : List Name) : (dedupNames l).Nodup := by
  induction l with
  | nil => simp [dedupNames]
  | cons b bs ih =>
    simp only [dedupNames, List.nodup_cons, List.mem_filter, decide_eq_true_eq]
    exact ⟨fun h => h.2 rfl, ih.filter _⟩

theorem dedupNames_of_nodup {l : List Name} (h : l.Nodup) : dedupNames l = l := by
  induction l with
  | nil => rfl
  | cons b bs ih =>
    simp only [List.nodup_cons] at h
    simp only [dedupNames, ih h.2]
    congr 1
    apply List.filter_eq_self.mpr
    intro a ha; simp only [decide_eq_true_eq]; intro e; subst e; exact h.1 ha

theorem filter_filter_ne (l : List Name) (b : Name) (p : Name → Bool) :
    (l.filter p).filter (· ≠ b) = (l.filter (· ≠ b)).filter p := by
  simp only [List.filter_filter]; apply List.filter_congr; intro a _; exact Bool.and_comm _ _

theorem dedupNames_append (xs ys : List Name) :
    dedupNames (xs ++ ys) = dedupNames xs ++ (dedupNames ys).filter (fun a => a ∉ xs) := by
  induction xs with
  | nil =>
    simp only [List.nil_append, dedupNames, List.not_mem_nil, not_false_eq_true, decide_true]
    exact (List.filter_eq_self.mpr (fun _ _ => rfl)).symm
  | cons b bs ih =>
    simp only [List.cons_append, dedupNames, ih, List.filter_append, List.cons.injEq, true_and]
    congr 1
    simp only [List.filter_filter]
    apply List.filter_congr
    intro a _
    by_cases e : a = b <;> by_cases m : a ∈ bs <;> simp [e, m]

theorem dedupNames_idem (l : List Name) : dedupNames (dedupNames l) = dedupNames l :=
  dedupNames_of_nodup (nodup_dedupNames l)

theorem dedupNames_append_left (xs ys : List Name) : dedupNames (dedupNames xs ++ ys) = dedupNames (xs ++ ys) := by
  rw [dedupNames_append, dedupNames_append, dedupNames_idem]
  congr 1
  apply List.filter_congr
  intro a _
  simp [mem_dedupNames]

theorem dedupNames_append_right (xs ys : List Name) : dedupNames (xs ++ dedupNames ys) = dedupNames (xs ++ ys) := by
  rw [dedupNames_append, dedupNames_append, dedupNames_idem]

theorem mem_mark {known : List Name} {n d : Name} : d ∈ mark known n ↔ d ∈ known ∨ d = n := by
  unfold mark
  by_cases h : known.contains n = true
  · rw [if_pos h]
    constructor
    · exact Or.inl
    · rintro (h' | rfl); exact h'; exact List.contains_iff_mem.mp h
  · rw [if_neg h]; simp

theorem nodup_mark {ord : List Name} (h : ord.Nodup) (n : Name) : (mark ord n).Nodup := by
  unfold mark
  by_cases hc : ord.contains n = true
  · rw [if_pos hc]; exact h
  · rw [if_neg hc]
    rw [List.nodup_append]
    refine ⟨h, by simp, ?_⟩
    intro a ha b hb e
    simp at hb; subst hb; subst e
    exact hc (List.contains_iff_mem.mpr ha)

theorem mark_of_mem {ord : List Name} {n : Name} (h : n ∈ ord) : mark ord n = ord := by
  unfold mark; rw [if_pos (List.contains_iff_mem.mpr h)]

theorem mark_of_not_mem {ord : List Name} {n : Name} (h : n ∉ ord) : mark ord n = ord ++ [n] := by
  unfold mark; rw [if_neg (fun hc => h (List.contains_iff_mem.mp hc))]

theorem mem_foldl_mark {l ord : List Name} {k : Name} : k ∈ l.foldl mark ord ↔ k ∈ ord ∨ k ∈ l := by
  induction l generalizing ord with
  | nil => simp
  | cons a l ih => rw [List.foldl_cons, ih, mem_mark, List.mem_cons, or_assoc]

theorem foldl_mark_eq {l ord : List Name} (h : ord.Nodup) : l.foldl mark ord = dedupNames (ord ++ l) := by
  induction l generalizing ord with
  | nil => simp [dedupNames_of_nodup h]
  | cons a l ih =>
    rw [List.foldl_cons, ih (nodup_mark h a)]
    by_cases ha : a ∈ ord
    · rw [mark_of_mem ha, dedupNames_append, dedupNames_append]
      congr 1
      simp only [dedupNames, List.filter_cons, ha, not_true_eq_false, decide_false, Bool.false_eq_true, if_false, List.filter_filter]
      exact List.filter_congr fun x _ => by by_cases hx : x ∈ ord <;> simp [hx]; rintro rfl; exact hx ha
    · rw [mark_of_not_mem ha, List.append_assoc]; rfl

/-! ### `Items` as a list of elements -/

/-- the child elements of a content list, in document order -/
def Items.elems : Items → List Node
  | .nil => []
  | .elem n r => n :: elems r
  | .text _ r => elems r
  | .other r => elems r

theorem Items.named_eq (k : Name) : ∀ is : Items, is.named k = is.elems.filter (fun n => n.name = k)
  | .nil => rfl
  | .elem n r => by by_cases h : n.name = k <;> simp [Items.named, Items.elems, h, named_eq k r]
  | .text _ r | .other r => named_eq k r

theorem Items.childNames_eq : ∀ is : Items, is.childNames = dedupNames (is.elems.map Node.name)
  | .nil => rfl
  | .elem n r => by simp [Items.childNames, Items.elems, dedupNames, childNames_eq r]
  | .text _ r | .other r => childNames_eq r

theorem marks_eq_foldl : ∀ (is : Items) (ord : List Name), marks ord is = (is.elems.map Node.name).foldl mark ord
  | .nil, _ => rfl
  | .elem _ r, _ => marks_eq_foldl r _
  | .text _ r, ord | .other r, ord => marks_eq_foldl r ord

theorem Items.ok_eq : ∀ is : Items, is.ok = is.elems.all Node.ok
  | .nil => rfl
  | .elem n r => by simp [Items.ok, Items.elems, ok_eq r]
  | .text _ r | .other r => ok_eq r

theorem Items.noElems_eq : ∀ is : Items, is.noElems = is.elems.isEmpty
  | .nil | .elem _ _ => rfl
  | .text _ r | .other r => noElems_eq r

theorem Items.elems_append : ∀ a b : Items, (a.append b).elems = a.elems ++ b.elems
  | .nil, _ => rfl
  | .elem n r, b => congrArg (n :: ·) (elems_append r b)
  | .text _ r, b | .other r, b => elems_append r b

theorem Items.named_ne_nil {is : Items} {k : Name} : is.named k ≠ [] ↔ k ∈ is.elems.map Node.name := by
  simp [Items.named_eq, List.filter_eq_nil_iff]

theorem Items.mem_childNames (is : Items) (k : Name) : k ∈ is.childNames ↔ is.named k ≠ [] := by
  rw [Items.childNames_eq, mem_dedupNames, Items.named_ne_nil]

theorem childNames_nodup (is : Items) : is.childNames.Nodup := by
  rw [Items.childNames_eq]; exact nodup_dedupNames _

theorem mem_marks (is : Items) (ord : List Name) (k : Name) : k ∈ marks ord is ↔ k ∈ ord ∨ is.named k ≠ [] := by
  rw [marks_eq_foldl, mem_foldl_mark, Items.named_ne_nil]

theorem nodup_marks (is : Items) (ord : List Name) (h : ord.Nodup) : (marks ord is).Nodup := by
  rw [marks_eq_foldl]; exact List.foldlRecOn _ (motive := List.Nodup) mark h fun _ h a _ => nodup_mark h a

theorem marks_eq (is : Items) (ord : List Name) (h : ord.Nodup) : marks ord is = dedupNames (ord ++ is.childNames) := by
  rw [marks_eq_foldl, foldl_mark_eq h, Items.childNames_eq, dedupNames_append_right]

theorem Items.named_append (a b : Items) (k : Name) : (a.append b).named k = a.named k ++ b.named k := by
  simp [Items.named_eq, Items.elems_append]

theorem Items.ok_append (a b : Items) : (a.append b).ok = (a.ok && b.ok) := by
  simp [Items.ok_eq, Items.elems_append]

theorem Items.named_noElems (a : Items) (h : a.noElems = true) (k : Name) : a.named k = [] := by
  rw [Items.noElems_eq, List.isEmpty_iff] at h; rw [Items.named_eq, h]; rfl

theorem Items.ok_noElems (a : Items) (h : a.noElems = true) : a.ok = true := by
  rw [Items.noElems_eq, List.isEmpty_iff] at h; rw [Items.ok_eq, h]; rfl

theorem Items.events_append (a b : Items) : (a.append b).events = a.events ++ b.events := by
  cases a with
  | nil => rfl
  | elem n r => simp [Items.append, Items.events, Items.events_append r b]
  | text c r => cases c <;> simp [Items.append, Items.events, Items.events_append r b]
  | other r => simp [Items.append, Items.events, Items.events_append r b]

/-! ### `orderOf`: the order of first appearance over a list of occurrences -/

theorem orderOf_eq (occs : List Node) : orderOf occs = dedupNames (occs.flatMap fun o => o.items.childNames) := by
  suffices ∀ ord0 : List Name, ord0.Nodup →
      occs.foldl (fun ord o => marks ord o.items) ord0 = dedupNames (ord0 ++ occs.flatMap fun o => o.items.childNames) by
    have := this [] List.nodup_nil
    simpa [orderOf] using this
  induction occs with
  | nil => intro ord0 h; simp [dedupNames_of_nodup h]
  | cons c occs ih =>
    intro ord0 h
    simp only [List.foldl_cons, List.flatMap_cons]
    rw [ih _ (nodup_marks _ _ h), marks_eq _ _ h, dedupNames_append_left, List.append_assoc]

theorem nodup_orderOf (occs : List Node) : (orderOf occs).Nodup := by
  rw [orderOf_eq]; exact nodup_dedupNames _

theorem mem_orderOf (occs : List Node) (k : Name) : k ∈ orderOf occs ↔ ∃ o ∈ occs, o.named k ≠ [] := by
  rw [orderOf_eq]; simp only [mem_dedupNames, List.mem_flatMap, Items.mem_childNames, Node.named]

theorem orderOf_append (occs : List Node) (c : Node) : orderOf (occs ++ [c]) = marks (orderOf occs) c.items := by
  simp [orderOf, List.foldl_append]

/-! ### a `Node` by its constructor; induction over the document tree; depth -/

theorem Node.ok_mk {k as sc items} (h : (Node.mk k as sc items).ok = true) :
    as.Nodup ∧ (sc = true → items = .nil) ∧ items.ok = true := by
  simp only [Node.ok, Bool.and_eq_true, decide_eq_true_eq, Bool.or_eq_true, Bool.not_eq_eq_eq_not, Bool.not_true] at h
  refine ⟨h.1.1, ?_, h.2⟩
  intro hs
  rcases h.1.2 with h' | h'
  · rw [hs] at h'; cases h'
  · cases items <;> simp_all

theorem Node.named_mk (k as sc items d) : (Node.mk k as sc items).named d = items.named d := rfl
theorem Node.hasText_mk (k as sc items) : (Node.mk k as sc items).hasText = items.hasText := rfl
theorem Node.attrs_mk (k as sc items) : (Node.mk k as sc items).attrs = as := rfl
theorem Node.name_mk (k as sc items) : (Node.mk k as sc items).name = k := rfl

mutual
theorem Node.induction_elems {P : Node → Prop} (step : ∀ o, (∀ n ∈ o.items.elems, P n) → P o) : ∀ o, P o
  | .mk _ _ _ is => step _ (Items.induction_elems step is)
theorem Items.induction_elems {P : Node → Prop} (step : ∀ o, (∀ n ∈ o.items.elems, P n) → P o) :
    ∀ is : Items, ∀ n ∈ is.elems, P n
  | .nil => fun _ h => nomatch h
  | .elem m r => fun _ h => (List.mem_cons.mp h).elim (· ▸ Node.induction_elems step m) (Items.induction_elems step r _)
  | .text _ r => Items.induction_elems step r
  | .other r => Items.induction_elems step r
end

theorem Items.depth_of_mem : ∀ (is : Items) {n : Node}, n ∈ is.elems → n.depth ≤ is.depth
  | .elem m r, n, h => by
    rw [Items.depth]
    rcases List.mem_cons.mp h with rfl | h
    · exact Nat.le_max_left _ _
    · exact Nat.le_trans (depth_of_mem r h) (Nat.le_max_right _ _)
  | .text _ r, _, h | .other r, _, h => by rw [Items.depth]; exact depth_of_mem r h

theorem named_depth (is : Items) (k : Name) : ∀ n ∈ is.named k, n.depth ≤ is.depth := fun n hn =>
  is.depth_of_mem (List.mem_filter.mp (Items.named_eq k is ▸ hn)).1

theorem Node.depth_pos (n : Node) : 1 ≤ n.depth := by cases n; simp [Node.depth]

theorem node_named_depth (o : Node) (k : Name) : ∀ n ∈ o.named k, n.depth + 1 ≤ o.depth := by
  cases o with
  | mk nm as sc items =>
    intro n hn
    simp only [Node.depth]
    exact Nat.succ_le_succ (named_depth items k n hn)

end Xsg
