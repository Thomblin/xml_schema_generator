import XsgModel.Model.Absorb
import XsgModel.Proofs.Act
/-! the stack machine on the events of a document = the tree-level semantics (`run_node`, `run_items`) -/
namespace Xsg

mutual
theorem run_node (n : Node) (f : Frame) (st : List Frame) :
    runEvents (.run (f :: st)) n.events = .run (absorbNode f n :: st) := by
  cases n with
  | mk k as sc items =>
    cases sc with
    | true =>
      simp only [Node.events, if_true, absorbNode]
      rw [runEvents_cons, step_run, Ev.act, tagAct_ok]; rfl
    | false =>
      simp only [Node.events, Bool.false_eq_true, if_false, absorbNode, List.cons_append, List.nil_append]
      rw [runEvents_cons, step_run, Ev.act, tagAct_ok, stepAct, runEvents_append _ items.events, run_items items, runEvents_cons, step_run]
      rfl
theorem run_items (is : Items) (f : Frame) (st : List Frame) :
    runEvents (.run (f :: st)) is.events = .run (absorbItems f is :: st) := by
  cases is with
  | nil => rfl
  | elem n r =>
    simp only [Items.events, absorbItems]
    rw [runEvents_append, run_node n, run_items r]
  | text cd r =>
    cases cd <;>
    · simp only [Items.events, absorbItems]
      rw [runEvents_cons, step_run]
      exact run_items r _ _
  | other r =>
    simp only [Items.events, absorbItems]
    rw [runEvents_cons, step_run]
    exact run_items r _ _
end

end Xsg
