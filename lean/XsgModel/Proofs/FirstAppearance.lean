import XsgModel.Proofs.Order
import XsgModel.Proofs.Sort
/-! children sorted by `position` are the children in order of first appearance -/
namespace Xsg

/-- the position of the child with the given name (0 if there is none) -/
def posOfName (cs : List (Nec × Elem)) (k : Name) : Nat :=
  match getChild cs k with
  | some (_, c) => c.position.getD 0
  | none => 0

theorem posOfName_ord {cs : List (Nec × Elem)} {ord : List Name} (h : PosInv cs ord) (i : Nat) (k : Name) (hik : ord[i]? = some k) :
    posOfName cs k = i := by
  obtain ⟨nec, c, hc, hp⟩ := h.pos i k hik
  simp [posOfName, hc, hp]

theorem position_of_mem {cs : List (Nec × Elem)} {ord : List Name} (hnd : (childNames cs).Nodup) (h : PosInv cs ord)
    {c : Nec × Elem} (hc : c ∈ cs) : c.2.position = some (posOfName cs c.2.name) := by
  have hg := getChild_of_mem_nodup hnd hc
  obtain ⟨i, hi⟩ := List.getElem?_of_mem ((h.mem _).mpr (by rw [hg]; exact nofun))
  obtain ⟨nec, c', hc', hp⟩ := h.pos i _ hi
  rw [posOfName_ord h i _ hi, ← hp]
  rw [hg] at hc'; cases hc'; rfl

theorem sortOn_position_names (e : Elem) (ord : List Name) (hnd : (childNames e.children).Nodup) (h : PosInv e.children ord) :
    (sortOn (fun c : Nec × Elem => SortKey.pos c.2.position) e.children).map (·.2.name) = ord := by
  have hperm := perm_sortOn (fun c : Nec × Elem => SortKey.pos c.2.position) e.children
  -- both lists hold the child names once each and ascend in the position, which tells the names of `ord` apart
  have hp : ((sortOn (fun c : Nec × Elem => SortKey.pos c.2.position) e.children).map (·.2.name)).Perm ord :=
    (hperm.map _).trans ((List.perm_ext_iff_of_nodup hnd h.nodup).mpr fun k => mem_childNames_iff.trans (h.mem k).symm)
  refine List.Perm.eq_of_pairwise (le := fun a b => posOfName e.children a ≤ posOfName e.children b) ?_ ?_ ?_ hp
  · intro a b ha hb hab hba
    obtain ⟨i, hi⟩ := List.getElem?_of_mem (hp.mem_iff.mp ha)
    obtain ⟨j, hj⟩ := List.getElem?_of_mem hb
    rw [posOfName_ord h i a hi, posOfName_ord h j b hj] at hab hba
    rw [Nat.le_antisymm hab hba, hj] at hi
    exact (Option.some.inj hi).symm
  · rw [List.pairwise_map]
    refine (sorted_sortOn (fun c : Nec × Elem => SortKey.pos c.2.position) e.children).imp_of_mem fun {a b} ha hb hle => ?_
    have pa := position_of_mem hnd h (hperm.mem_iff.mp ha)
    have pb := position_of_mem hnd h (hperm.mem_iff.mp hb)
    simpa only [pa, pb, SortKey.le, decide_eq_true_eq] using hle
  · rw [List.pairwise_iff_getElem]
    intro i j hi hj hij
    rw [posOfName_ord h i _ (List.getElem?_eq_getElem hi), posOfName_ord h j _ (List.getElem?_eq_getElem hj)]
    exact Nat.le_of_lt hij

theorem sorted_children_names (e : Elem) (ord : List Name) (hnd : (childNames e.children).Nodup) (h : PosInv e.children ord)
    (o : Options) (ho : o.sort = .unsorted) : (sortedChildren o e).map (·.2.name) = ord := by
  unfold sortedChildren
  rw [ho]
  exact sortOn_position_names e ord hnd h

end Xsg
