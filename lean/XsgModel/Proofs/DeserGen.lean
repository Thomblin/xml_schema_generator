import XsgModel.Proofs.DeserField
import XsgModel.Proofs.AdmitsSpec
import XsgModel.Proofs.DeserStruct
/-!
# A deserializer model accepts every document the tree admits — generic part

`deNode_gen`: for a preset `o` and a deserializer configuration `cfg` that are *linked* (`Link`: the serde name
the preset gives to an attribute / a child / the text is the key the deserializer offers it under, and keys of
different kinds never coincide), for an entry of the walk and a document element that the entry's element
admits (`Admits`, C01), `deNode` on the rendered program returns a value, and the non-empty strings of that
value are exactly the strings of the element that the struct has a place for (`VNode.kept`: all attribute
values, the character data of elements typed `String`, and — only if the deserializer offers character data
under the preset's text name (`fed`) — the character data of elements rendered as structs).

A preset shows `Keys` at every element of its trees (a `Scope`); `Link` follows at every document element admitted there
(`Keys.link`), and so does that the keys the element offers are serde names of the struct (`keys_cover`).  The struct
itself comes from `DeserStruct`, the reading of one field and of all of them from `DeserField`; `deNode_walk` puts them
together by induction on the document element, for every sort and every hint map, and `deNode_gen` is its instance.
-/
namespace Xsg

theorem mem_erase_named {n c : VNode} (hc : c ∈ n.items.elems) : c.erase ∈ n.erase.named c.name := by
  rw [VNode.erase_named]
  exact List.mem_map_of_mem (List.mem_filter.mpr ⟨hc, by simp⟩)

/-- `Admits e n.erase` read on the document with values -/
structure VAdmits (e : Elem) (n : VNode) : Prop where
  attr_mem : ∀ x ∈ n.attrs, x.1 ∈ names e.attrs
  attr_req : ∀ a, (Nec.man, a) ∈ e.attrs → ∃ x ∈ n.attrs, x.1 = a
  text : n.erase.hasText = true → e.text = true
  child : ∀ c ∈ n.items.elems, ∃ ce, getChild e.children c.name = some ce ∧ Admits ce.2 c.erase
  child_req : ∀ k c, getChild e.children k = some (Nec.man, c) → n.items.elems.filter (fun d => d.name = k) ≠ []
  child_single : ∀ k nec c, getChild e.children k = some (nec, c) → c.standalone = true →
    (n.items.elems.filter (fun d => d.name = k)).length ≤ 1

theorem Admits.withValues {e : Elem} {n : VNode} (h : Admits e n.erase) : VAdmits e n := by
  obtain ⟨_, _, haf, har, htext, hkf, hreq, hsingle, hsub⟩ := h
  refine { attr_mem := fun x hx => haf x.1 ?_, attr_req := fun a ha => ?_, text := htext, child := fun c hc => ?_,
           child_req := fun k c hg he => hreq k c hg ?_, child_single := fun k nec c hg hs => ?_ }
  · rw [VNode.erase_attrs]; exact List.mem_map_of_mem hx
  · simpa [VNode.erase_attrs] using har a ha
  · have hn := mem_erase_named hc
    cases hg : getChild e.children c.name with
    | none => exact absurd hg (hkf c.name (List.ne_nil_of_mem hn))
    | some ce => exact ⟨ce, rfl, hsub c.name ce.1 ce.2 hg _ hn⟩
  · rw [VNode.erase_named, he]; rfl
  · have := hsingle k nec c hg hs
    rwa [VNode.erase_named, List.length_map] at this

theorem VAdmits.child_mem {e : Elem} {n : VNode} (h : VAdmits e n) {c : VNode} (hc : c ∈ n.items.elems) :
    ∃ d ∈ e.children, d.2.name = c.name := by
  obtain ⟨ce, hg, _⟩ := h.child c hc
  exact ⟨ce, getChild_some_mem hg, getChild_some_name hg⟩

mutual
/-- the strings of a document element that the struct rendered for the tree element `e` has a place for:
attribute values; character data only if `fed`; children typed `String` with all they hold, children rendered as
structs recursively -/
def VNode.kept (fed : Bool) (cfg : DeCfg) (e : Elem) : VNode → List Str
  | .mk _ as _ items => as.map (·.2) ++ (if fed then cfg.texts items else []) ++ items.kept fed cfg e
def VItems.kept (fed : Bool) (cfg : DeCfg) (e : Elem) : VItems → List Str
  | .nil => []
  | .elem c r =>
    (match getChild e.children c.name with
     | some ce => if ce.2.textOnly then c.values cfg else c.kept fed cfg ce.2
     | none => []) ++ r.kept fed cfg e
  | .text _ _ r => r.kept fed cfg e
  | .other _ r => r.kept fed cfg e
end

def keptChild (fed : Bool) (cfg : DeCfg) (e : Elem) (c : VNode) : List Str :=
  match getChild e.children c.name with
  | some ce => if ce.2.textOnly then c.values cfg else c.kept fed cfg ce.2
  | none => []

theorem VItems.kept_eq (fed : Bool) (cfg : DeCfg) (e : Elem) :
    ∀ items : VItems, items.kept fed cfg e = items.elems.flatMap (keptChild fed cfg e)
  | .nil => by simp [VItems.kept, VItems.elems]
  | .elem c r => by
    simp only [VItems.kept, VItems.elems, List.flatMap_cons, VItems.kept_eq fed cfg e r, keptChild]
  | .text _ _ r | .other _ r => by simp [VItems.kept, VItems.elems, VItems.kept_eq fed cfg e r]

theorem VNode.kept_eq (fed : Bool) (cfg : DeCfg) (e : Elem) (n : VNode) :
    n.kept fed cfg e = n.attrs.map (·.2) ++ (if fed then cfg.texts n.items else []) ++ n.items.elems.flatMap (keptChild fed cfg e) := by
  cases n with
  | mk nm as sc items => simp [VNode.kept, VNode.attrs, VNode.items, VItems.kept_eq]

/-- with character data fed to the text field, what is kept of an admitted element is everything it holds -/
theorem kept_true_eq_values (cfg : DeCfg) (e : Elem) (n : VNode) (hadm : Admits e n.erase) :
    n.kept true cfg e = n.values cfg := by
  induction n using VNode.induction_elems generalizing e with
  | step n ih =>
    rw [VNode.kept_eq, VNode.values_eq, if_pos rfl]
    congr 1
    refine flatMap_congr_mem _ _ _ fun c hc => ?_
    obtain ⟨ce, hg, hadmc⟩ := hadm.withValues.child c hc
    simp only [keptChild, hg]
    split
    · rfl
    · exact ih c hc ce.2 hadmc

/-- how the preset's field names relate to the keys the deserializer offers, at one tree element and one
document element it admits -/
structure Link (o : Options) (cfg : DeCfg) (fed : Bool) (e : Elem) (n : VNode) : Prop where
  attr_iff : ∀ x ∈ n.attrs, ∀ a ∈ names e.attrs, (cfg.attrKey x.1 = o.attrPrefix ++ attrLocal a ↔ x.1 = a)
  attr_ne_text : ∀ a ∈ names e.attrs, cfg.textKey ≠ o.attrPrefix ++ attrLocal a
  attr_ne_elem : ∀ a ∈ names e.attrs, ∀ d ∈ n.items.elems, cfg.elemKey d.name ≠ o.attrPrefix ++ attrLocal a
  text_ne_attr : ∀ x ∈ n.attrs, cfg.attrKey x.1 ≠ o.textIdent
  text_ne_elem : ∀ d ∈ n.items.elems, cfg.elemKey d.name ≠ o.textIdent
  child_ne_attr : ∀ c ∈ e.children, ∀ x ∈ n.attrs, cfg.attrKey x.1 ≠ removeNamespace c.2.name
  child_ne_text : ∀ c ∈ e.children, cfg.textKey ≠ removeNamespace c.2.name
  child_iff : ∀ c ∈ e.children, ∀ d ∈ n.items.elems, (cfg.elemKey d.name = removeNamespace c.2.name ↔ d.name = c.2.name)
  contig : cfg.adjacent = true → ∀ c ∈ e.children, contiguous (fun d : VNode => decide (d.name = c.2.name)) n.items.elems = true
  fed_eq : fed = true → cfg.textKey = o.textIdent
  fed_text : fed = true → cfg.texts n.items ≠ [] → e.text = true
  unfed_ne : fed = false → cfg.textKey ≠ o.textIdent

/-- the serde names the preset gives at one tree element are pairwise distinct, and they are the keys the deserializer
offers the attributes and children under; the text key is the preset's text name if `fed`, and no serde name otherwise -/
structure Keys (o : Options) (cfg : DeCfg) (fed : Bool) (e : Elem) : Prop where
  attrs_nodup : ((names e.attrs).map fun a => o.attrPrefix ++ attrLocal a).Nodup
  kids_nodup : ((childNames e.children).map removeNamespace).Nodup
  attr_ne_text : ∀ a ∈ names e.attrs, o.attrPrefix ++ attrLocal a ≠ o.textIdent
  attr_ne_kid : ∀ a ∈ names e.attrs, ∀ c ∈ e.children, o.attrPrefix ++ attrLocal a ≠ removeNamespace c.2.name
  text_ne_kid : ∀ c ∈ e.children, o.textIdent ≠ removeNamespace c.2.name
  attrKey_eq : ∀ a ∈ names e.attrs, cfg.attrKey a = o.attrPrefix ++ attrLocal a
  elemKey_eq : ∀ c ∈ e.children, cfg.elemKey c.2.name = removeNamespace c.2.name
  text_fed : fed = true → cfg.textKey = o.textIdent
  text_unfed : fed = false → cfg.textKey ≠ o.textIdent ∧ (∀ a ∈ names e.attrs, cfg.textKey ≠ o.attrPrefix ++ attrLocal a) ∧
    ∀ c ∈ e.children, cfg.textKey ≠ removeNamespace c.2.name

namespace Keys
variable {o : Options} {cfg : DeCfg} {fed : Bool} {e : Elem}

theorem bounds {en : Entry} (h : Keys o cfg fed en.elem) (hints names') :
    ((structOf o hints names' en).plain.fields.map PField.bound').Nodup := by
  rw [(bounds_perm o hints names' en).nodup_iff, List.nodup_append, List.nodup_append]
  refine ⟨⟨h.attrs_nodup, by split <;> simp, ?_⟩,
    by simpa only [childNames, List.map_map, Function.comp_def] using h.kids_nodup, ?_⟩
  · simp only [List.mem_map, List.mem_ite_nil_right, List.mem_singleton, forall_exists_index, and_imp, forall_apply_eq_imp_iff₂]
    rintro a ha _ _ rfl
    exact h.attr_ne_text a ha
  · simp only [List.mem_append, List.mem_map, List.mem_ite_nil_right, List.mem_singleton, forall_exists_index, and_imp,
      forall_apply_eq_imp_iff₂]
    rintro x (⟨a, ha, rfl⟩ | ⟨_, rfl⟩) c hc
    · exact h.attr_ne_kid a ha c hc
    · exact h.text_ne_kid c hc

theorem link (h : Keys o cfg fed e) {n : VNode} (ha : VAdmits e n)
    (hcontig : cfg.adjacent = true → ∀ c ∈ e.children, contiguous (fun d : VNode => decide (d.name = c.2.name)) n.items.elems = true)
    (htext : fed = true → cfg.texts n.items ≠ [] → e.text = true) : Link o cfg fed e n := by
  -- the keys of the document's attributes and child elements are serde names of the tree element
  have hx : ∀ x ∈ n.attrs, x.1 ∈ names e.attrs ∧ cfg.attrKey x.1 = o.attrPrefix ++ attrLocal x.1 :=
    fun x hx => ⟨ha.attr_mem x hx, h.attrKey_eq _ (ha.attr_mem x hx)⟩
  have hd : ∀ d ∈ n.items.elems, ∃ c ∈ e.children, c.2.name = d.name ∧ cfg.elemKey d.name = removeNamespace c.2.name := by
    intro d hd
    obtain ⟨c, hc, hcn⟩ := ha.child_mem hd
    exact ⟨c, hc, hcn, hcn ▸ h.elemKey_eq c hc⟩
  refine { attr_iff := ?_, attr_ne_text := ?_, attr_ne_elem := ?_, text_ne_attr := ?_, text_ne_elem := ?_, child_ne_attr := ?_,
           child_ne_text := ?_, child_iff := ?_, contig := hcontig, fed_eq := h.text_fed, fed_text := htext,
           unfed_ne := fun hf => (h.text_unfed hf).1 }
  · intro x hx' a ha'
    rw [(hx x hx').2]
    exact ⟨inj_of_nodup_map _ _ h.attrs_nodup _ (hx x hx').1 _ ha', fun e' => e' ▸ rfl⟩
  · intro a ha'
    cases hf : fed
    · exact (h.text_unfed hf).2.1 a ha'
    · exact h.text_fed hf ▸ (h.attr_ne_text a ha').symm
  · intro a ha' d hd'
    obtain ⟨c, hc, -, hk⟩ := hd d hd'
    exact hk ▸ (h.attr_ne_kid a ha' c hc).symm
  · intro x hx'
    exact (hx x hx').2 ▸ h.attr_ne_text _ (hx x hx').1
  · intro d hd'
    obtain ⟨c, hc, -, hk⟩ := hd d hd'
    exact hk ▸ (h.text_ne_kid c hc).symm
  · intro c hc x hx'
    exact (hx x hx').2 ▸ h.attr_ne_kid _ (hx x hx').1 c hc
  · intro c hc
    cases hf : fed
    · exact (h.text_unfed hf).2.2 c hc
    · exact h.text_fed hf ▸ h.text_ne_kid c hc
  · intro c hc d hd'
    obtain ⟨c', hc', hcn, hk⟩ := hd d hd'
    rw [hk, ← hcn]
    exact ⟨fun e' => inj_of_nodup_map removeNamespace _ h.kids_nodup _ (List.mem_map_of_mem hc') _ (List.mem_map_of_mem hc) e',
      fun e' => e' ▸ rfl⟩

end Keys

/-- a field is not `Option` only if the attribute / child is mandatory (`Field.opt` is `decide (a.1 = .opt)`) -/
theorem eq_man_of_not_opt {α : Type} {a : Nec × α} (h : decide (a.1 = Nec.opt) = false) : a = (Nec.man, a.2) := by
  obtain ⟨nec, a⟩ := a
  cases nec
  · cases h
  · rfl

section node
variable {o : Options} {cfg : DeCfg} {fed : Bool} {e : Elem} {n : VNode} {K : VNode → KidRes} {G : VNode → List Str}
  (hl : Link o cfg fed e n) (ha : VAdmits e n) (hkey : ∀ c, (K c).key = cfg.elemKey c.name)
include hl ha hkey

/-- an attribute's field: under its serde name the element offers the attribute of that name (at most one) and nothing else -/
theorem fieldVal_attr (ndA : (n.attrs.map (·.1)).Nodup) {im : IdentMap} {a : Nec × Name} (ha' : a ∈ e.attrs) {txt : Option Str} :
    Yields (fieldVal cfg (attrField o im a).plain n.attrs txt (n.items.elems.map K))
      (srcStrings cfg G n txt (attrField o im a).plain.bound') := by
  have han : a.2 ∈ names e.attrs := List.mem_map_of_mem ha'
  have hA : n.attrs.filter (fun x => cfg.attrKey x.1 = o.attrPrefix ++ attrLocal a.2) = n.attrs.filter (fun x => x.1 = a.2) :=
    List.filter_congr fun x hx => decide_eq_decide.mpr (hl.attr_iff x hx a.2 han)
  have hT : (if cfg.textKey = o.attrPrefix ++ attrLocal a.2 then txt.toList else []) = [] := if_neg (hl.attr_ne_text a.2 han)
  have hlen : (n.attrs.filter (fun x => x.1 = a.2)).length + ([] : List Str).length ≤ 1 := by
    rw [List.length_nil, Nat.add_zero]
    exact filter_len_le_one (·.1) a.2 n.attrs ndA
  -- a mandatory attribute is present in every admitted element
  have hreq : (attrField o im a).plain.opt = false → n.attrs.filter (fun x => x.1 = a.2) ≠ [] ∨ ([] : List Str) ≠ [] := by
    intro hopt
    obtain ⟨x, hx, hxa⟩ := ha.attr_req a.2 (eq_man_of_not_opt hopt ▸ ha')
    exact .inl (List.ne_nil_of_mem (List.mem_filter.mpr ⟨hx, decide_eq_true hxa⟩))
  rw [fieldVal, bound_attrField]
  exact fieldValAt_scalar hkey hA hT (hl.attr_ne_elem a.2 han) hlen rfl rfl hreq

omit ha in
/-- the text field: under the preset's text name the element offers its character data, if the deserializer uses that key -/
theorem fieldVal_text {tx : Option Str} {im : IdentMap} :
    Yields (fieldVal cfg (textField o im).plain n.attrs tx (n.items.elems.map K))
      (srcStrings cfg G n tx (textField o im).plain.bound') := by
  have hA : n.attrs.filter (fun x => cfg.attrKey x.1 = o.textIdent) = [] :=
    List.filter_eq_nil_iff.mpr fun x hx => by simpa using hl.text_ne_attr x hx
  exact fieldValAt_scalar (f := (textField o im).plain) hkey hA rfl hl.text_ne_elem (by split <;> cases tx <;> simp)
    rfl rfl (fun h => by cases h)

/-- a child's field: under its serde name the element offers the child elements of that name and nothing else -/
theorem fieldVal_child (ndC : (childNames e.children).Nodup) (hqname : ∀ c, (K c).qname = c.name)
    (hval : ∀ c ∈ n.items.elems, Yields (K c).val (G c))
    {hints names' im path trace} {c : Nec × Elem} (hc : c ∈ e.children) {txt : Option Str} :
    Yields (fieldVal cfg (childField hints names' im path trace c).plain n.attrs txt (n.items.elems.map K))
      (srcStrings cfg G n txt (childField hints names' im path trace c).plain.bound') := by
  have hE : n.items.elems.filter (fun d => cfg.elemKey d.name = removeNamespace c.2.name)
      = n.items.elems.filter (fun d => d.name = c.2.name) :=
    List.filter_congr fun d hd => decide_eq_decide.mpr (hl.child_iff c hc d hd)
  have hg : getChild e.children c.2.name = some c := getChild_of_mem_nodup ndC hc
  have hmem : ∀ d ∈ n.items.elems.filter (fun d => d.name = c.2.name), d ∈ n.items.elems ∧ d.name = c.2.name := by simp
  -- a mandatory child is present in every admitted element
  have hreq : (childField hints names' im path trace c).plain.opt = false →
      n.items.elems.filter (fun d => d.name = c.2.name) ≠ [] :=
    fun hopt => ha.child_req _ c.2 (eq_man_of_not_opt hopt ▸ hg)
  have hsingle : (childField hints names' im path trace c).plain.vec = false →
      (n.items.elems.filter (fun d => d.name = c.2.name)).length ≤ 1 :=
    fun hvec => ha.child_single _ _ _ hg (by simpa [childField, Field.plain] using hvec)
  -- where adjacency matters: being offered under the child's key is having the child's name
  have hcont : cfg.adjacent = true →
      contiguous (fun k' : KidRes => decide (k'.key = removeNamespace c.2.name)) (n.items.elems.map K) = true := by
    intro hadj
    rw [contiguous_map, contiguous_congr _ (fun d : VNode => decide (d.name = c.2.name))]
    · exact hl.contig hadj c hc
    · exact fun d hd => by simp only [Function.comp, hkey]; exact decide_eq_decide.mpr (hl.child_iff c hc d hd)
  rw [fieldVal, bound_childField]
  exact fieldValAt_kids hkey (hl.child_ne_attr c hc) (hl.child_ne_text c hc) hE (fun d hd => hval d (hmem d hd).1) hreq hsingle
    (fun d hd d' hd' => by rw [hqname, hqname, (hmem d hd).2, (hmem d' hd').2]) hcont

end node

section cover
variable {o : Options} {cfg : DeCfg} {fed : Bool} {n : VNode}
  (hints : Name → Option Nat) (names' : List (List Name × Name)) (en : Entry)
  (hl : Link o cfg fed en.elem n) (ha : VAdmits en.elem n)
include hl ha

/-- every key the document element offers is the serde name of a field; the text key only if character data is fed -/
theorem keys_cover :
    (∀ x ∈ n.attrs, cfg.attrKey x.1 ∈ (structOf o hints names' en).plain.fields.map PField.bound') ∧
    (∀ c ∈ n.items.elems, cfg.elemKey c.name ∈ (structOf o hints names' en).plain.fields.map PField.bound') ∧
    (fed = true → cfg.texts n.items ≠ [] → cfg.textKey ∈ (structOf o hints names' en).plain.fields.map PField.bound') ∧
    (fed = false → cfg.textKey ∉ (structOf o hints names' en).plain.fields.map PField.bound') := by
  simp only [mem_bounds]
  refine ⟨fun x hx => .inl ⟨x.1, ha.attr_mem x hx, ((hl.attr_iff x hx x.1 (ha.attr_mem x hx)).mpr rfl).symm⟩, fun c hc => ?_,
    fun hf hne => .inr (.inl ⟨hl.fed_text hf hne, hl.fed_eq hf⟩), fun hf => ?_⟩
  · obtain ⟨d, hd, hdn⟩ := ha.child_mem hc
    exact .inr (.inr ⟨d, hd, ((hl.child_iff d hd c hc).mpr hdn.symm).symm⟩)
  · rintro (⟨a, ha', e⟩ | ⟨_, e⟩ | ⟨c, hc, e⟩)
    · exact hl.attr_ne_text a ha' e.symm
    · exact hl.unfed_ne hf e
    · exact hl.child_ne_text c hc e.symm

end cover

/-- an element admitted where the tree has a text-only element has no attributes and no child elements: read as a
`String` it gives its character data, which is all it holds -/
theorem deStringElem_textOnly {cfg : DeCfg} {e : Elem} {c : VNode} (hadm : Admits e c.erase) (hto : e.textOnly = true)
    (hm : c.inModel cfg = true) : Yields (deStringElem cfg c) (c.values cfg) := by
  simp only [Elem.textOnly, Bool.and_eq_true, List.isEmpty_iff] at hto
  have hattrs : c.attrs = [] := List.eq_nil_iff_forall_not_mem.mpr fun x hx => by
    simpa [hto.1.2, names] using hadm.withValues.attr_mem x hx
  have hel : c.items.elems = [] := List.eq_nil_iff_forall_not_mem.mpr fun d hd => by
    obtain ⟨ce, hce, _⟩ := hadm.withValues.child_mem hd
    simp [hto.2] at hce
  refine ⟨.str ((cfg.texts c.items).head?.getD []), ?_, ?_⟩
  · cases c with
    | mk _ _ _ citems =>
      have : citems.elems = [] := hel
      simp [deStringElem, this, VNode.items]
  · rw [VNode.values_eq, hattrs, hel, Val.strings_str]
    rcases len_le_one_cases _ (VNode.inModel_elems hm).1 with h0 | ⟨x, h1⟩
    · simp [h0, ne]
    · simp [h1]

/-- the side conditions of a preset / deserializer pair, as predicates on tree elements and document elements
that are inherited by children and give `Link` and distinct serde names wherever an element admits a node.
`link` and `bounds` may use `e.Inv`: `scopeSxr` takes the distinctness of the child names from it, `scopeQuick` has
it from `keysOK` -/
structure Scope (o : Options) (cfg : DeCfg) (fed : Bool) where
  PE : Elem → Prop
  PN : VNode → Prop
  PE_child : ∀ e c, PE e → c ∈ e.children → PE c.2
  PN_child : ∀ n c, PN n → c ∈ n.items.elems → PN c
  link : ∀ e n, PE e → PN n → e.Inv = true → Admits e n.erase → Link o cfg fed e n
  bounds : ∀ hints names' (en : Entry), PE en.elem → en.elem.Inv = true → ((structOf o hints names' en).plain.fields.map PField.bound').Nodup

/-- the recursion, for any program `p` and any naming in which the struct of every entry of the walk is found under its
name and no entry is named `String`: that is all the recursion asks of the rendered program -/
theorem deNode_walk {o : Options} {cfg : DeCfg} {fed : Bool} (S : Scope o cfg fed)
    {t : Elem} (htInv : t.Inv = true) {p : List PStruct} {H0 : Name → Option Nat} {N0 : List (List Name × Name)}
    (hfind : ∀ en ∈ walk o.sort [] [] t,
      findStruct p (structNameOf H0 N0 en.path en.trace en.elem) = some (structOf o H0 N0 en).plain)
    (hne : ∀ en ∈ walk o.sort [] [] t, structNameOf H0 N0 en.path en.trace en.elem ≠ stringTy)
    (deny : Bool) (hdeny : deny = true → fed = true) (n : VNode) {en : Entry}
    (hen : en ∈ walk o.sort [] [] t) (hPE : S.PE en.elem) (hPN : S.PN n)
    (hadm : Admits en.elem n.erase) (hok : n.erase.ok = true) (hmodel : n.inModel cfg = true) :
    Yields (deNode cfg p deny (structNameOf H0 N0 en.path en.trace en.elem) n) (n.kept fed cfg en.elem) := by
  induction n using VNode.induction_elems generalizing en with
  | step n ih =>
    have hinv := walk_inv o.sort t htInv [] [] en hen
    have hbnd := S.bounds H0 N0 en hPE hinv
    have hl := S.link en.elem n hPE hPN hinv hadm
    obtain ⟨hA, hE, hfed, hunfed⟩ := keys_cover H0 N0 en hl hadm.withValues
    rw [deNode_of_find (hfind en hen), VNode.kept_eq]
    refine assemble_ok kidRes_key hbnd (VNode.inModel_elems hmodel).1 hA hE hfed hunfed (fun f hf => ?_) deny hdeny
    have hkval : ∀ c ∈ n.items.elems,
        Yields (kidRes cfg p deny (structOf o H0 N0 en).plain.fields c).val (keptChild fed cfg en.elem c) := by
      intro c hc
      obtain ⟨ce, hg, hadmc⟩ := hadm.withValues.child c hc
      have hcem := getChild_some_mem hg
      -- its key is the serde name of the tree's child of that name, so that child's field is found
      have hfindF : findField (structOf o H0 N0 en).plain.fields (cfg.elemKey c.name)
          = some (childField H0 N0 (identMap en.elem) en.path en.trace ce).plain := by
        rw [(hl.child_iff ce hcem c hc).mpr (getChild_some_name hg).symm]
        exact findField_child o H0 N0 en hbnd hcem
      rw [kidRes_val hfindF, keptChild, hg, childField_base]
      by_cases hto : ce.2.textOnly = true
      · rw [if_pos hto, if_pos rfl]
        simp only [hto, if_true]
        exact deStringElem_textOnly hadmc hto ((VNode.inModel_elems hmodel).2 c hc)
      · -- a struct field: recursion with the child's entry
        have hsub := child_entry_mem o.sort en ce hcem (by simpa using hto) t [] [] hen
        rw [if_neg hto, if_neg (hne _ hsub)]
        simp only [hto]
        exact ih c hc (en := childEntry en ce) hsub (S.PE_child _ ce hPE hcem) (S.PN_child _ c hPN hc) hadmc
          ((VNode.erase_ok_elems hok).2 c hc) ((VNode.inModel_elems hmodel).2 c hc)
    rcases (fields_cases o H0 N0 en).mp hf with ⟨a, ha, rfl⟩ | ⟨_, rfl⟩ | ⟨c, hc, rfl⟩
    · exact fieldVal_attr hl hadm.withValues kidRes_key (VNode.erase_ok_elems hok).1 ha
    · exact fieldVal_text hl kidRes_key
    · exact fieldVal_child hl hadm.withValues kidRes_key (Inv_nodup hinv) kidRes_qname hkval hc

/-- A linked deserializer model returns a value for every admitted document element that is well-formed (`ok`) and
inside the model (`inModel`), for the struct rendered for the tree element, and the non-empty strings of the value are,
as a multiset, what the struct has a place for. -/
theorem deNode_gen (o : Options) (cfg : DeCfg) (fed : Bool) (ho : o.sort = .unsorted) (S : Scope o cfg fed)
    (t : Elem) (htInv : t.Inv = true) (deny : Bool) (hdeny : deny = true → fed = true) (n : VNode) (en : Entry)
    (hen : en ∈ walk o.sort [] [] t) (hPE : S.PE en.elem) (hPN : S.PN n) (hinv : en.elem.Inv = true)
    (hadm : Admits en.elem n.erase) (hok : n.erase.ok = true) (hmodel : n.inModel cfg = true) :
    ∃ v, deNode cfg ((renderAST o t).map StructDef.plain) deny
      (structNameOf (hintOf (fillNames [] t)) (structNames (hintOf (fillNames [] t)) t) en.path en.trace en.elem) n = .ok v ∧
      (ne v.strings).Perm (ne (n.kept fed cfg en.elem)) :=
  deNode_walk S htInv (fun _ h => findStruct_rendered o t htInv h) (fun _ h => structName_ne_string o t htInv h)
    deny hdeny n hen hPE hPN hadm hok hmodel

end Xsg
