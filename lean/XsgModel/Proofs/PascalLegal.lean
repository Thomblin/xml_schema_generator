import XsgModel.Proofs.IdentLegal
/-! `to_pascal_case`: alphanumeric output that starts with a letter which is not ASCII lower case; so a struct name, made
of such forms and digits, is a legal type name unless it is reserved -/
namespace Xsg

/- the clause `False → t ≠ []` only fills the slot of `foldl_out` that says when a piece is not empty; `to_pascal_case`
needs no such fact -/
theorem pascalStep_out (s : PascalState) (c : Char) :
    ∃ t, (pascalStep s c).out = s.out ++ t ∧ t.all isAlnum = true ∧ (False → t ≠ []) := by
  unfold pascalStep
  by_cases ha : isAlnum c = true
  · simp only [ha, if_true]
    split
    · exact ⟨toUpper c, rfl, List.all_eq_true.mpr fun d hd => (toUpper_spec ha d hd).1, False.elim⟩
    · obtain ⟨d, hd, hal, _⟩ := toLower_spec ha
      exact ⟨toLower c, rfl, by simp [hd, hal], False.elim⟩
  · simp only [ha, Bool.false_eq_true, if_false]
    exact ⟨[], by simp, rfl, False.elim⟩

theorem pascal_out (l : Name) (s : PascalState) : ∃ t, (l.foldl pascalStep s).out = s.out ++ t ∧ t.all isAlnum = true :=
  let ⟨t, h1, h2, _⟩ := foldl_out (·.out) pascalStep isAlnum (fun _ => False) pascalStep_out l s
  ⟨t, h1, h2⟩

theorem pascal_all_alnum (n : Name) : (pascal n).all isAlnum = true := by
  obtain ⟨t, h1, h2⟩ := pascal_out n ⟨[], true, false⟩
  rw [pascal, h1]; simpa using h2

/-- a capitalised start: a letter that is not ASCII lower case -/
def CapStart : Name → Prop
  | [] => False
  | d :: _ => isLetter d = true ∧ asciiLower d = false

theorem CapStart_append {v : Name} (h : CapStart v) (w : Name) : CapStart (v ++ w) := by
  cases v with
  | nil => exact absurd h (by simp [CapStart])
  | cons c cs => exact h

theorem pascal_capStart_aux (l : Name) (s : PascalState) (hs : s.out = [] ∧ s.capNext = true) (hl : LetterFirst l) :
    CapStart (l.foldl pascalStep s).out := by
  induction l generalizing s with
  | nil => obtain ⟨c, hf, _⟩ := hl; simp at hf
  | cons c0 rest ih =>
    obtain ⟨c, hf, hlet⟩ := hl
    rw [List.foldl_cons]
    by_cases ha : isAlnum c0 = true
    · have hc : c = c0 := by simp [ha] at hf; exact hf.symm
      subst hc
      obtain ⟨t, ht, _⟩ := pascal_out rest (pascalStep s c)
      rw [ht]
      apply CapStart_append
      have hout : (pascalStep s c).out = toUpper c := by
        unfold pascalStep; simp [ha, hs.1, hs.2]
      rw [hout]
      cases hu : toUpper c with
      | nil => exact absurd hu (toUpper_ne_nil c)
      | cons d ds =>
        have hd := toUpper_spec ha d (hu ▸ List.mem_cons_self)
        have hdig := hd.2 ((isLetter_iff c).mp hlet).2
        exact ⟨(isLetter_iff d).mpr ⟨hd.1, hdig.1⟩, hdig.2⟩
    · have ha' : isAlnum c0 = false := Bool.eq_false_iff.mpr ha
      apply ih
      · unfold pascalStep; simp [ha', hs.1]
      · simp only [List.find?_cons, ha'] at hf
        exact ⟨c, hf, hlet⟩

theorem pascal_capStart {n : Name} (h : LetterFirst n) : CapStart (pascal n) :=
  pascal_capStart_aux n _ ⟨rfl, rfl⟩ h

theorem keyword_heads : ∀ k ∈ keywords, k = cl!"Self" ∨ k.head?.any asciiLower = true := by decide +kernel

theorem legal_of_capStart {n : Name} (h1 : CapStart n) (h2 : n.all isAlnum = true) (h3 : n ≠ cl!"Self") : legalIdent n = true := by
  cases n with
  | nil => exact absurd h1 (by simp [CapStart])
  | cons d ds =>
    refine legalIdent_of (Or.inl h1.1) (List.all_eq_true.mpr fun c hc => xidContinue_of_alnum (List.all_eq_true.mp h2 c hc))
      (Bool.eq_false_iff.mpr fun hk => ?_)
    rcases keyword_heads _ (List.contains_iff_mem.mp hk) with h | h
    · exact h3 h
    · rw [List.head?_cons, Option.any_some, h1.2] at h; cases h

/-- a capitalised alphanumeric name that is not reserved is a legal type name: `Self` and the shadowed types are reserved -/
theorem legalTypeIdent_of {n : Name} (h1 : CapStart n) (h2 : n.all isAlnum = true) (h3 : n ∉ reservedStructNames) :
    legalTypeIdent n = true := by
  simp only [reservedStructNames, List.mem_cons, List.mem_nil_iff, or_false, not_or] at h3
  simp only [legalTypeIdent, shadowedTypes, List.contains_cons, List.contains_nil, Bool.or_false, Bool.and_eq_true,
    Bool.not_eq_eq_eq_not, Bool.not_true, Bool.or_eq_false_iff, beq_eq_false_iff_ne]
  exact ⟨legal_of_capStart h1 h2 h3.1, h3.2.1, h3.2.2.1, h3.2.2.2.1⟩

/-! struct names have the shape `C14_shape` gives: the PascalCase forms of the path items from the `j`-th on, then digits -/

theorem pascalPath_alnum (path : List Name) (j : Nat) {digits : Name} (hd : digits.all isDigit = true) :
    (((path.map pascal).drop j).flatten ++ digits).all isAlnum = true := by
  rw [List.all_append, Bool.and_eq_true, List.all_flatten]
  constructor
  · refine List.all_eq_true.mpr fun l hl => ?_
    obtain ⟨p, _, rfl⟩ := List.mem_map.mp (List.mem_of_mem_drop hl)
    exact pascal_all_alnum p
  · exact List.all_eq_true.mpr fun c hc => by simp [isAlnum, List.all_eq_true.mp hd c hc]

theorem pascalPath_capStart {path : List Name} {j : Nat} (hj : j < path.length) (h : LetterFirst path[j]) (digits : Name) :
    CapStart (((path.map pascal).drop j).flatten ++ digits) := by
  rw [List.drop_eq_getElem_cons (by simpa using hj), List.getElem_map, List.flatten_cons, List.append_assoc]
  exact CapStart_append (pascal_capStart h) _

end Xsg
