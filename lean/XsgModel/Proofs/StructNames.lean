import XsgModel.Proofs.Naming
/-! the struct name the renderer looks up for an entry (`structNameOf`) is in the table of the naming pass and is the
expanded name of an entry of that pass plus digits; struct names of a rendered tree with unique child names are
pairwise distinct and not reserved -/
namespace Xsg

theorem pathLookup_eq (tbl : List (List Name × Name)) (path : List Name) : pathLookup tbl path = lookupLast tbl path := rfl

theorem pathLookup_assign (H : Name → Option Nat) (entries : List Entry) (used : List Name) (en : Entry) (hen : en ∈ entries) :
    ∃ nm, pathLookup (assignNames H entries used) en.path = some nm ∧ (en.path, nm) ∈ assignNames H entries used := by
  cases hl : pathLookup (assignNames H entries used) en.path with
  | some nm => exact ⟨nm, rfl, lookupLast_mem hl⟩
  | none =>
    obtain ⟨p, hp, e⟩ := List.mem_map.mp
      (assignNames_paths H entries used ▸ List.mem_map_of_mem hen : en.path ∈ (assignNames H entries used).map (·.1))
    exact absurd e (lookupLast_eq_none.mp hl p hp)

theorem structNameOf_mem (H : Name → Option Nat) (s : SortBy) (t : Elem) (en : Entry) (hen : en ∈ walk s [] [] t) :
    (en.path, structNameOf H (structNames H t) en.path en.trace en.elem) ∈ structNames H t := by
  obtain ⟨nm, hl, hm⟩ := pathLookup_assign H _ reservedStructNames en (mem_walk_sort s .unsorted t [] [] en hen)
  rw [structNameOf, show pathLookup (structNames H t) en.path = some nm from hl]
  exact hm

/-- every struct name the renderer uses is the expanded name of an entry of the naming pass (the unsorted walk) with
the same path (so its trace is the PascalCase form of that path), possibly followed by a decimal number -/
theorem structNameOf_eq (H : Name → Option Nat) (root : Elem) (s : SortBy) (en : Entry) (hen : en ∈ walk s [] [] root) :
    ∃ en' ∈ walk .unsorted [] [] root, en'.path = en.path ∧ ∃ digits, digits.all isDigit = true ∧
      structNameOf H (structNames H root) en.path en.trace en.elem = expandName H (en.path.map pascal) en'.elem ++ digits := by
  obtain ⟨en', hen', hp, hshape⟩ := assignNames_suffix_needed H _ _ _ (structNameOf_mem H s root en hen)
  have hp : en'.path = en.path := hp.symm
  rw [← hp, ← walk_trace .unsorted root [] [] rfl en' hen', hp]  -- `en.path.map pascal` is the trace of `en'`
  refine ⟨en', hen', hp, ?_⟩
  rcases hshape with h | ⟨⟨i, _, h⟩, _⟩
  · exact ⟨[], rfl, by simpa using h⟩
  · exact ⟨dec i, dec_all_digits i, h⟩

theorem struct_names_spec (H : Name → Option Nat) (o : Options) (t : Elem) (ht : t.Inv = true) :
    ((renderWith H o t).map (·.name)).Nodup ∧ ∀ s ∈ renderWith H o t, s.name ∉ reservedStructNames := by
  obtain ⟨hnd, hres⟩ := assignNames_fresh H (walk .unsorted [] [] t) reservedStructNames
  have hmem := structNameOf_mem H o.sort t
  constructor
  · -- the paths of the entries are pairwise distinct, and a name of the table determines its path
    refine List.pairwise_map.mpr (List.pairwise_map.mpr ?_)
    refine (List.pairwise_map.mp (walk_paths_nodup o.sort t ht [] [])).imp_of_mem fun {a b} ha hb hab hname => hab ?_
    have hb' := hmem b hb
    rw [show structNameOf H (structNames H t) b.path b.trace b.elem = structNameOf H (structNames H t) a.path a.trace a.elem
      from hname.symm] at hb'
    exact (Prod.mk.inj (inj_of_nodup_map (·.2) _ hnd _ (hmem a ha) _ hb' rfl)).1
  · intro s hs
    obtain ⟨en, hen, rfl⟩ := List.mem_map.mp hs
    exact hres _ (List.mem_map_of_mem (f := (·.2)) (hmem en hen))

end Xsg
