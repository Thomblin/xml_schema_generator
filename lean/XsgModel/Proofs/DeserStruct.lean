import XsgModel.Model.Deser
import XsgModel.Proofs.Necessity
import XsgModel.Proofs.IdentMap
import XsgModel.Proofs.StructNames
/-!
# The rendered program as a deserializer sees it

The struct of an entry read back from the text (`StructDef.plain`): its fields and their serde names (`PField.bound'`),
up to the order the preset sorts them in (`plain_fields_perm`, `bounds_perm`), so for every sort; the type of a child's
field (`childField_base`); and that the struct of an entry of the walk is the one `findStruct` finds under its name in
the rendered program (`findStruct_rendered`), no struct being named `String`.  Nothing here knows documents.
-/
namespace Xsg

theorem bound_attrField (o : Options) (im : IdentMap) (a : Nec × Name) :
    (attrField o im a).plain.bound' = o.attrPrefix ++ attrLocal a.2 := attrField_bound o im a

theorem bound_textField (o : Options) (im : IdentMap) : (textField o im).plain.bound' = o.textIdent := rfl

theorem bound_childField (hints names' im path trace) (c : Nec × Elem) :
    (childField hints names' im path trace c).plain.bound' = removeNamespace c.2.name :=
  childField_bound hints names' im path trace c

theorem childField_base (hints names' im path trace) (c : Nec × Elem) :
    (childField hints names' im path trace c).plain.base =
      if c.2.textOnly then stringTy else structNameOf hints names' (path ++ [c.2.name]) (trace ++ [pascal c.2.name]) c.2 := rfl

section rendered
variable (o : Options) (hints : Name → Option Nat) (names' : List (List Name × Name)) (en : Entry)

/-- the fields of the struct rendered for an entry, as read back from the text, up to the order the preset sorts them in -/
theorem plain_fields_perm :
    (structOf o hints names' en).plain.fields.Perm
      ((en.elem.attrs.map fun a => (attrField o (identMap en.elem) a).plain)
      ++ (if en.elem.text then [(textField o (identMap en.elem)).plain] else [])
      ++ (en.elem.children.map fun c => (childField hints names' (identMap en.elem) en.path en.trace c).plain)) := by
  simp only [StructDef.plain, structOf_fields', List.map_append, List.map_map]
  refine (((perm_sortedAttrs o en.elem).map _).append (.of_eq ?_)).append ((perm_sortedChildren o en.elem).map _)
  split <;> rfl

theorem fields_cases {f : PField} :
    f ∈ (structOf o hints names' en).plain.fields ↔
    (∃ a ∈ en.elem.attrs, f = (attrField o (identMap en.elem) a).plain) ∨
    (en.elem.text = true ∧ f = (textField o (identMap en.elem)).plain) ∨
    (∃ c ∈ en.elem.children, f = (childField hints names' (identMap en.elem) en.path en.trace c).plain) := by
  simp only [(plain_fields_perm o hints names' en).mem_iff, List.mem_append, List.mem_map, or_assoc,
    List.mem_ite_nil_right, List.mem_singleton, @eq_comm _ f]

theorem bounds_perm :
    ((structOf o hints names' en).plain.fields.map PField.bound').Perm
      ((names en.elem.attrs).map (fun a => o.attrPrefix ++ attrLocal a) ++ (if en.elem.text then [o.textIdent] else [])
        ++ en.elem.children.map (fun c => removeNamespace c.2.name)) := by
  refine ((plain_fields_perm o hints names' en).map _).trans (.of_eq ?_)
  simp only [List.map_append, List.map_map, names, Function.comp_def, bound_attrField, bound_childField]
  congr 2
  split <;> rfl

theorem mem_bounds {key : Name} :
    key ∈ (structOf o hints names' en).plain.fields.map PField.bound' ↔
    (∃ a ∈ names en.elem.attrs, o.attrPrefix ++ attrLocal a = key) ∨ (en.elem.text = true ∧ key = o.textIdent) ∨
    (∃ c ∈ en.elem.children, removeNamespace c.2.name = key) := by
  simp only [(bounds_perm o hints names' en).mem_iff, List.mem_append, List.mem_map, or_assoc, List.mem_ite_nil_right,
    List.mem_singleton]

/-- under distinct serde names, the field found under a child's serde name is the child's field -/
theorem findField_child (hnd : ((structOf o hints names' en).plain.fields.map PField.bound').Nodup) {c : Nec × Elem}
    (hc : c ∈ en.elem.children) :
    findField (structOf o hints names' en).plain.fields (removeNamespace c.2.name)
      = some (childField hints names' (identMap en.elem) en.path en.trace c).plain := by
  have := find?_of_nodup_map PField.bound' _ hnd _ ((fields_cases o hints names' en).mpr (.inr (.inr ⟨c, hc, rfl⟩)))
  rwa [bound_childField] at this

end rendered

theorem stringTy_reserved : stringTy ∈ reservedStructNames := by decide

section program
variable (o : Options) (t : Elem) (htInv : t.Inv = true)
include htInv

theorem findStruct_rendered {en : Entry} (hen : en ∈ walk o.sort [] [] t) :
    findStruct ((renderAST o t).map StructDef.plain)
      (structNameOf (hintOf (fillNames [] t)) (structNames (hintOf (fillNames [] t)) t) en.path en.trace en.elem)
      = some (structOf o (hintOf (fillNames [] t)) (structNames (hintOf (fillNames [] t)) t) en).plain := by
  have hnd : (((renderAST o t).map StructDef.plain).map (·.name)).Nodup := by
    simpa [List.map_map, Function.comp_def, StructDef.plain] using show ((renderAST o t).map (·.name)).Nodup from (struct_names_spec _ o t htInv).1
  exact find?_of_nodup_map (fun d : PStruct => d.name) _ hnd _
    (List.mem_map_of_mem (List.mem_map_of_mem (f := structOf o _ _) hen))

theorem structName_ne_string {en : Entry} (hen : en ∈ walk o.sort [] [] t) :
    structNameOf (hintOf (fillNames [] t)) (structNames (hintOf (fillNames [] t)) t) en.path en.trace en.elem ≠ stringTy := fun e' =>
  (struct_names_spec _ o t htInv).2 _ (List.mem_map_of_mem (f := structOf o _ _) hen)
    (show (structOf o _ _ en).name ∈ reservedStructNames from e' ▸ stringTy_reserved)

end program

end Xsg
