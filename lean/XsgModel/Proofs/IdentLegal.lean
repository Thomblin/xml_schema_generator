import XsgModel.Model.RustSyntax
import XsgModel.Proofs.CharLemmas
import XsgModel.Proofs.IdentMap
/-! the field identifiers produced by `identifier::Map::new` are legal, non-keyword Rust identifiers (on Σ) if the first
alphanumeric character of every name is a letter (`LetterFirst`); `EntryOK` is the side condition of C04 on one entry -/
namespace Xsg

/-- the side condition of C04 on one name: its first alphanumeric character exists and is a letter -/
def LetterFirst (n : Name) : Prop := ∃ c, n.find? isAlnum = some c ∧ isLetter c = true

theorem nameOK_letterFirst {n : Name} (h : nameOK n = true) : LetterFirst n := by
  simp only [nameOK, Bool.and_eq_true] at h
  cases hf : n.find? isAlnum with
  | none => rw [hf] at h; simp at h
  | some c => rw [hf] at h; exact ⟨c, hf ▸ rfl, h.2⟩

/-- what C04 asks of the names at one entry, for a predicate `p` on names (`nameOK` in the statements, `LetterFirst`
where only the first letter matters): the element, its attributes and its children are named by `p`-names, and neither
two attributes nor two children share a name -/
structure EntryOK (p : Name → Prop) (en : Entry) : Prop where
  name : p en.elem.name
  attrs : ∀ a ∈ en.elem.attrs, p a.2
  kids : ∀ c ∈ en.elem.children, p c.2.name
  attrs_nodup : (en.elem.attrs.map (·.2)).Nodup
  kids_nodup : (en.elem.children.map (·.2.name)).Nodup

theorem EntryOK.mono {p q : Name → Prop} {en : Entry} (h : ∀ n, p n → q n) (he : EntryOK p en) : EntryOK q en :=
  ⟨h _ he.name, fun a ha => h _ (he.attrs a ha), fun c hc => h _ (he.kids c hc), he.attrs_nodup, he.kids_nodup⟩

/-- the first clause of `legalIdent` as a proposition: an identifier starts with a letter, or with `_` followed by more -/
def GoodStart : Name → Prop
  | [] => False
  | c :: cs => xidStart c = true ∨ (c = '_' ∧ cs ≠ [])

theorem legalIdent_iff (n : Name) :
    legalIdent n = true ↔ GoodStart n ∧ n.tail.all xidContinue = true ∧ isKeyword n = false := by
  cases n with
  | nil => simp [legalIdent, GoodStart]
  | cons c cs => simp [legalIdent, GoodStart, and_assoc]

theorem GoodStart_append {v : Name} (h : GoodStart v) (w : Name) : GoodStart (v ++ w) := by
  cases v with
  | nil => exact absurd h (by simp [GoodStart])
  | cons c cs =>
    simp only [GoodStart, List.cons_append] at h ⊢
    rcases h with h | ⟨h, h'⟩
    · exact Or.inl h
    · exact Or.inr ⟨h, by simp [h']⟩

theorem keyword_no_underscore : ∀ k ∈ keywords, '_' ∉ k := by decide +kernel

theorem not_keyword_of_underscore {n : Name} (h : '_' ∈ n) : isKeyword n = false :=
  Bool.eq_false_iff.mpr fun hk => keyword_no_underscore n (List.contains_iff_mem.mp hk) h

theorem xidContinue_of_alnum {c : Char} (h : isAlnum c = true) : xidContinue c = true := by simp [xidContinue, h]
theorem xidContinue_underscore : xidContinue '_' = true := by decide

theorem legalIdent_of {n : Name} (hg : GoodStart n) (ha : n.all xidContinue = true) (hk : isKeyword n = false) :
    legalIdent n = true := (legalIdent_iff n).mpr ⟨hg, all_tail ha, hk⟩

theorem legalIdent_all_xid {n : Name} (h : legalIdent n = true) : n.all xidContinue = true := by
  obtain ⟨h1, h2, _⟩ := (legalIdent_iff n).mp h
  cases n with
  | nil => rfl
  | cons d ds =>
    have hd : xidContinue d = true :=
      h1.elim (fun h => xidContinue_of_alnum ((isLetter_iff d).mp h).1) fun h => h.1 ▸ xidContinue_underscore
    simpa [hd] using h2

/-- an identifier-shaped name followed by identifier characters with a `_` among them is a legal identifier: no
keyword has a `_` -/
theorem legalIdent_append {v w : Name} (hg : GoodStart v) (ha : v.all xidContinue = true) (hw : w.all xidContinue = true)
    (hu : '_' ∈ w) : legalIdent (v ++ w) = true :=
  legalIdent_of (GoodStart_append hg w) (by simp [ha, hw]) (not_keyword_of_underscore (by simp [hu]))

theorem snakeStep_out (s : SnakeState) (c : Char) :
    ∃ t, (snakeStep s c).out = s.out ++ t ∧ t.all xidContinue = true ∧ (isAlnum c = true → t ≠ []) := by
  unfold snakeStep
  by_cases hu : isUpper c = true
  · obtain ⟨d, hd, hal, _⟩ := toLower_spec (isUpper_alnum hu)
    simp only [hu, if_true, hd]
    split
    · exact ⟨['_', d], by simp, by simp [xidContinue_underscore, xidContinue_of_alnum hal], fun _ => by simp⟩
    · exact ⟨[d], rfl, by simp [xidContinue_of_alnum hal], fun _ => by simp⟩
  · simp only [hu, Bool.false_eq_true, if_false]
    by_cases ha : isAlnum c = true
    · simp only [ha, Bool.not_true, Bool.false_eq_true, if_false]
      exact ⟨[c], rfl, by simp [xidContinue_of_alnum ha], fun _ => by simp⟩
    · have ha' : isAlnum c = false := Bool.eq_false_iff.mpr ha
      simp only [ha', Bool.not_false, if_true]
      split
      · exact ⟨['_'], rfl, by simp [xidContinue_underscore], fun h => by simp at h⟩
      · exact ⟨[], by simp, by simp, fun h => by simp at h⟩

theorem snake_out (l : Name) (s : SnakeState) :
    ∃ t, (l.foldl snakeStep s).out = s.out ++ t ∧ t.all xidContinue = true ∧ ((∃ c ∈ l, isAlnum c = true) → t ≠ []) :=
  foldl_out (·.out) snakeStep xidContinue (isAlnum · = true) snakeStep_out l s

theorem snake_all (n : Name) : (snake n).all xidContinue = true := by
  obtain ⟨t, h1, h2, _⟩ := snake_out n ⟨[], false, false⟩
  rw [snake, h1]; simpa using h2

/-- `to_valid_key` first maps ':' to '_'; `to_snake_case` cannot tell them apart -/
theorem snakeStep_colon (s : SnakeState) : snakeStep s ':' = snakeStep s '_' := by
  unfold snakeStep
  have h1 : isUpper ':' = false := by decide
  have h2 : isUpper '_' = false := by decide
  have h3 : isAlnum ':' = false := by decide
  have h4 : isAlnum '_' = false := by decide
  simp [h1, h2, h3, h4]

theorem snake_map_colon (n : Name) : snake (n.map fun c => if c = ':' then '_' else c) = snake n := by
  have : (fun s c => snakeStep s (if c = ':' then '_' else c)) = snakeStep := by
    funext s c; split
    · rename_i h; rw [h, snakeStep_colon]
    · rfl
  rw [snake, List.foldl_map, this]; rfl

theorem GoodStart_snake {n : Name} (h : LetterFirst n) : GoodStart (snake n) := by
  obtain ⟨c, hf, hl⟩ := h
  cases n with
  | nil => simp at hf
  | cons c0 rest =>
    show GoodStart (rest.foldl snakeStep (snakeStep ⟨[], false, false⟩ c0)).out
    obtain ⟨t, ht, _, hgrow⟩ := snake_out rest (snakeStep ⟨[], false, false⟩ c0)
    rw [ht]
    by_cases ha : isAlnum c0 = true
    · -- the first character is the first alphanumeric one, hence a letter
      have hc : c = c0 := by simp [ha] at hf; exact hf.symm
      subst hc
      apply GoodStart_append
      unfold snakeStep
      by_cases hu : isUpper c = true
      · obtain ⟨d, hd, hal, hdig⟩ := toLower_spec ha
        simp [hu, hd, GoodStart, show xidStart d = true from (isLetter_iff d).mpr ⟨hal, hdig ((isLetter_iff c).mp hl).2⟩]
      · simp [hu, ha, GoodStart, show xidStart c = true from hl]
    · -- a separator first: '_' followed by at least the letter found later
      have hu : isUpper c0 = false := Bool.eq_false_iff.mpr fun hu => ha (isUpper_alnum hu)
      have hrest : ∃ x ∈ rest, isAlnum x = true := by
        simp only [List.find?_cons, ha] at hf
        exact ⟨c, List.mem_of_find?_eq_some hf, List.find?_some hf⟩
      have hout : (snakeStep ⟨[], false, false⟩ c0).out = ['_'] := by
        unfold snakeStep; simp [hu, ha]
      rw [hout]
      show GoodStart ('_' :: t)
      exact Or.inr ⟨rfl, hgrow hrest⟩

theorem validKey_legal (pre n : Name) (hp : LetterFirst pre) (hn : LetterFirst n) : legalIdent (validKey pre n) = true := by
  unfold validKey
  simp only [snake_map_colon]
  split
  · rw [List.append_assoc]
    exact legalIdent_append (GoodStart_snake hp) (snake_all pre) (by simp [snake_all, xidContinue_underscore]) (by simp)
  · next hk => exact legalIdent_of (GoodStart_snake hn) (snake_all n) (by simpa using hk)

theorem dec_xidContinue (i : Nat) : (dec i).all xidContinue = true :=
  List.all_eq_true.mpr fun c hc => by simp [xidContinue, isAlnum, List.all_eq_true.mp (dec_all_digits i) c hc]

theorem createUnused_legal (reserved : List Name) (v : Name) (ty : IType) (h : legalIdent v = true) :
    legalIdent (createUnused reserved v ty) = true := by
  have hv := (legalIdent_iff v).mp h
  unfold createUnused
  have hbase : legalIdent (identBase reserved v ty) = true := by
    unfold identBase
    split
    · decide +kernel
    · split
      · exact legalIdent_append hv.1 (legalIdent_all_xid h) (by decide) (by decide)
      · exact h
  rcases firstFree_cases reserved (identBase reserved v ty) (fun i => identBase reserved v ty ++ ['_'] ++ dec i) with
    e | ⟨_, i, _, e⟩
  · rw [e]; exact hbase
  · rw [e, List.append_assoc]
    exact legalIdent_append ((legalIdent_iff _).mp hbase).1 (legalIdent_all_xid hbase)
      (by simp [xidContinue_underscore, dec_xidContinue]) (by simp)

/-- every field identifier of a rendered struct is a legal, non-keyword Rust identifier: each is a result of
`create_unused_name` for a converted key -/
theorem fields_legal (o : Options) (H : Name → Option Nat) (names' : List (List Name × Name)) (en : Entry)
    (h : EntryOK LetterFirst en) : ∀ f ∈ (structOf o H names' en).fields, legalIdent f.ident = true :=
  (field_idents_spec (legalIdent · = true) o H names' en h.attrs_nodup h.kids_nodup
    (fun r c hc => createUnused_legal r _ _ (validKey_legal _ _ h.name (h.kids c hc)))
    (fun r a ha => createUnused_legal r _ _ (validKey_legal _ _ h.name (h.attrs a ha)))
    (fun r => createUnused_legal r _ _ (by decide +kernel))).2

end Xsg
